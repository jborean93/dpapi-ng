/-
  Core algebra of `_encrypt_blob` / `_decrypt_blob`: the GCM parameters carry the nonce, and under
  the functional laws of the primitives decryption inverts encryption whenever both sides hold
  the same KEK.
-/
import DpapiNg.Model.Client
import DpapiNg.Proofs.Asn1Steps
import DpapiNg.Proofs.Kek
namespace DpapiNg.Client
open DpapiNg DpapiNg.Asn1 DpapiNg.Gkdi DpapiNg.Blob

/-- the GCM parameters `ncrypt_protect_secret` writes: SEQUENCE { OCTET STRING nonce, INTEGER 16 } -/
theorem gcmParams_eq (iv : Bytes) :
    gcmParams iv = .ok (tlv tSEQ (tlv tOCTET iv ++ tlv tINTEGER (packIntegerContent 16))) := by
  simp only [gcmParams, packOctet_ok, packInteger_ok, wSeq_ok, ok_bind]

/-- `SEQUENCE { OCTET STRING iv, INTEGER 16 }` and reading the nonce back -/
theorem gcmParams_iv (iv : Bytes) (h : iv.length < 2 ^ 32) :
    ∃ p, gcmParams iv = .ok p ∧ gcmIv (some p) = .ok iv ∧ p ≠ [] := by
  refine ⟨_, gcmParams_eq iv, ?_, tlv_ne_nil _ _⟩
  have ht : truthy (some (tlv tSEQ (tlv tOCTET iv ++ tlv tINTEGER (packIntegerContent 16)))) = true := by
    simp [truthy, tlv_ne_nil]
  -- the two reader steps need only that everything is below the length-encoding limit
  have hiv : iv.length < Lim := Nat.lt_trans h (by decide)
  have hseq : (tlv tOCTET iv ++ tlv tINTEGER (packIntegerContent 16)).length < Lim := by
    have l1 := tlv_length_le tOCTET (by decide) iv hiv
    have l2 : (tlv tINTEGER (packIntegerContent 16)).length = 3 := by decide +kernel
    rw [List.length_append, l2]
    exact Nat.lt_of_le_of_lt (Nat.add_le_add_right l1 3) (Nat.lt_trans (Nat.add_lt_add_right h _) (by decide))
  have e := rdSeq_tlv _ [] hseq
  rw [List.append_nil] at e
  simp only [gcmIv, ht, not_true_eq_false, if_false, orEmpty, Option.getD_some, e, rdOctets_tlv _ _ hiv, ok_bind, pure_eq_ok]

/-- the parts of a blob `_encrypt_blob` returns: parameters from the nonce draw, the nonce read back from them, the content
    under (CEK draw, that nonce), the KEK and key identifier from the third draw, the CEK wrapped under the KEK -/
theorem encryptBlobValue_eq_ok {C : Crypto} {data : Bytes} {key : Envelope} {sid : Bytes} {d : Draws} {b : Blob}
    (h : encryptBlobValue C data key sid d = .ok b) :
    ∃ params iv ct kek kid w, gcmParams d.iv = .ok params ∧ gcmIv (some params) = .ok iv ∧
      C.gcmEncrypt d.cek iv data = .ok ct ∧ newKek C key d.kekRnd = .ok (kek, kid) ∧ C.keyWrap kek d.cek = .ok w ∧
      b = ⟨kid, sid, w, oidAes256Wrap, none, ct, oidAes256Gcm, some params⟩ := by
  unfold encryptBlobValue at h
  obtain ⟨params, h1, h⟩ := bind_ok_iff.mp h
  obtain ⟨iv, h2, h⟩ := bind_ok_iff.mp h
  obtain ⟨ct, h3, h⟩ := bind_ok_iff.mp h
  obtain ⟨⟨kek, kid⟩, h4, h⟩ := bind_ok_iff.mp h
  obtain ⟨w, h5, h⟩ := bind_ok_iff.mp h
  exact ⟨params, iv, ct, kek, kid, w, h1, h2, h3, h4, h5, (Except.ok.inj h).symm⟩

/-- … and with a nonce of ordinary size the nonce read back is the draw -/
theorem encryptBlobValue_draws {C : Crypto} {data : Bytes} {key : Envelope} {sid : Bytes} {d : Draws} {b : Blob}
    (hiv : d.iv.length < 2 ^ 32) (h : encryptBlobValue C data key sid d = .ok b) :
    ∃ params ct kek kid w, gcmIv (some params) = .ok d.iv ∧
      C.gcmEncrypt d.cek d.iv data = .ok ct ∧ newKek C key d.kekRnd = .ok (kek, kid) ∧ C.keyWrap kek d.cek = .ok w ∧
      b = ⟨kid, sid, w, oidAes256Wrap, none, ct, oidAes256Gcm, some params⟩ := by
  obtain ⟨params, iv, ct, kek, kid, w, h1, h2, h3, h4, h5, hb⟩ := encryptBlobValue_eq_ok h
  obtain ⟨p, hp, hpiv, _⟩ := gcmParams_iv d.iv hiv
  cases hp.symm.trans h1
  cases hpiv.symm.trans h2
  exact ⟨_, ct, kek, kid, w, hpiv, h3, h4, h5, hb⟩

/-- `_decrypt_blob` inverts `_encrypt_blob` whenever the decrypting side derives the same KEK
    (which C02 + C03 establish): AES-KW unwrap ∘ wrap and AES-GCM decrypt ∘ encrypt are the only
    laws used. -/
theorem decrypt_encrypt (C : Crypto) (L : C.Laws) (data : Bytes) (keyS keyR : Envelope) (sid : Bytes) (d : Draws) (b : Blob)
    (hiv : d.iv.length < 2 ^ 32)
    (henc : encryptBlobValue C data keyS sid d = .ok b)
    (hkek : ∀ kek kid, newKek C keyS d.kekRnd = .ok (kek, kid) → getKek C keyR kid = .ok kek) :
    decryptBlob C b keyR = .ok data := by
  obtain ⟨params, ct, kek, kid, w, hpiv, hg, hn, hw, rfl⟩ := encryptBlobValue_draws hiv henc
  simp only [decryptBlob, hkek kek kid hn, cekDecrypt, if_true, L.unwrap_wrap kek d.cek w hw, contentDecrypt, hpiv,
    L.decrypt_encrypt d.cek d.iv data ct hg, except_nf]

end DpapiNg.Client
