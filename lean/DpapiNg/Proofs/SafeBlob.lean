/-
  C05, CMS layer: every reader of `_pkcs7.py` / `_blob.py` is `Safe` on every input, and the key identifier it hands on to
  `KeyIdentifier.unpack` (whose `key_info` reaches `compute_kek`) consists of octets of the input.
-/
import DpapiNg.Proofs.SafeAsn1
import DpapiNg.Proofs.Asn1Rt
import DpapiNg.Model.Blob
namespace DpapiNg.Blob
open DpapiNg DpapiNg.Asn1 DpapiNg.Gkdi

@[safe] theorem safe_rdOid (v : Bytes) : Safe (rdOid v) := safe_map (safe_readOid _ _ _)
@[safe] theorem safe_rdInt (v : Bytes) : Safe (rdInt v) := safe_map (safe_readInteger _ _ _)
@[safe] theorem safe_rdOctets (v : Bytes) (t : Option Tag) : Safe (rdOctets v t) := safe_map (safe_readOctetString _ _ _)
@[safe] theorem safe_rdSeq (v : Bytes) (h : Option Header) : Safe (rdSeq v h) := safe_map (safe_readSequence _ _ _)
@[safe] theorem safe_rdSet (v : Bytes) : Safe (rdSet v) := safe_map (safe_readSet _ _ _)
@[safe] theorem safe_rdUtf8 (v : Bytes) : Safe (rdUtf8 v) := by simp only [rdUtf8, safe]
@[safe] theorem safe_rdGenTime (v : Bytes) (h : Option Header) : Safe (rdGenTime v h) := by simp only [rdGenTime, safe]

/-- `rdSeq`, `rdSet`, `rdOctets`: a bare `_validate_tag`, then the advance -/
theorem post_rdTlv {v : Bytes} {e : Option Tag} {t : Tag} {hd : Option Header} (hb : IsBytes v) :
    Post ((validateTag v e t hd).map fun (a, n) => (a, v.drop n)) fun p => IsBytes p.1 ∧ IsBytes p.2 :=
  post_map_iff.mpr fun _ h => ⟨validateTag_isBytes hb h, isBytes_drop hb _⟩
theorem post_rdOid {v : Bytes} (hb : IsBytes v) : Post (rdOid v) fun p => IsBytes p.2 := post_map_iff.mpr fun _ _ => isBytes_drop hb _
theorem post_rdInt {v : Bytes} (hb : IsBytes v) : Post (rdInt v) fun p => IsBytes p.2 := post_map_iff.mpr fun _ _ => isBytes_drop hb _

/-- the two string readers: `_validate_tag`, then the UTF-8 test -/
theorem post_validUtf8 {v : Bytes} {e : Option Tag} {t : Tag} {hd : Option Header} (hb : IsBytes v) :
    Post (validateTag v e t hd >>= fun (a, n) => if utf8Valid a then .ok (a, v.drop n) else .error .valueError)
      fun p => IsBytes p.1 ∧ IsBytes p.2 := by
  simp only [post]
  exact fun _ h _ => ⟨validateTag_isBytes hb h, isBytes_drop hb _⟩
theorem rdUtf8_isBytes {v c r : Bytes} (hb : IsBytes v) (h : rdUtf8 v = .ok (c, r)) : IsBytes c ∧ IsBytes r :=
  post_validUtf8 hb _ h
theorem rdGenTime_isBytes {v c r : Bytes} {hd : Option Header} (hb : IsBytes v) (h : rdGenTime v hd = .ok (c, r)) : IsBytes c ∧ IsBytes r :=
  post_validUtf8 hb _ h

@[safe] theorem safe_algIdUnpack (v : Bytes) : Safe (algIdUnpack v) := by
  simp only [algIdUnpack, safe]

theorem post_algIdUnpack {v : Bytes} (hb : IsBytes v) :
    Post (algIdUnpack v) fun x => IsBytes x.2 ∧ ∀ p, x.1.parameters = some p → IsBytes p :=
  post_bind (post_rdTlv hb) fun _ hc => post_bind (post_rdOid hc.1) fun _ hc' =>
    post_pure.mpr ⟨hc.2, fun _ hp => Option.some.inj (Option.ite_none_left_eq_some.mp hp).2 ▸ hc'⟩
theorem algIdUnpack_isBytes {v r : Bytes} {a : AlgId} (hb : IsBytes v) (h : algIdUnpack v = .ok (a, r)) :
    IsBytes r ∧ ∀ p, a.parameters = some p → IsBytes p :=
  post_algIdUnpack hb _ h

@[safe] theorem safe_protDescUnpack (v : Bytes) : Safe (protDescUnpack v) := by
  simp only [protDescUnpack, safe]

@[safe] theorem safe_kekIdUnpack (v : Bytes) : Safe (kekIdUnpack v) := by
  simp only [kekIdUnpack, safe]

theorem post_kekIdUnpack {v : Bytes} (hb : IsBytes v) : Post (kekIdUnpack v) fun p => IsBytes p.1.keyIdentifier ∧ IsBytes p.2 :=
  post_bind (post_rdTlv hb) fun _ hc => post_bind (post_rdTlv hc.1) fun _ hki => post_bind' fun _ => post_bind' fun _ =>
    post_bind' fun _ => post_pure.mpr ⟨hki.1, hc.2⟩

@[safe] theorem safe_recipientInfoUnpack (v : Bytes) : Safe (recipientInfoUnpack v) := by
  simp only [recipientInfoUnpack, safe]

theorem post_recipientInfoUnpack {v : Bytes} (hb : IsBytes v) :
    Post (recipientInfoUnpack v) fun p => IsBytes p.1.kekid.keyIdentifier ∧ IsBytes p.2 :=
  post_bind' fun _ => post_guard fun _ => post_bind (post_rdTlv hb) fun _ hc => post_bind (post_rdInt hc.1) fun _ hc1 =>
    post_bind (post_kekIdUnpack hc1) fun _ hk => post_bind' fun _ => post_bind' fun _ => post_pure.mpr ⟨hk.1, hc.2⟩

@[safe] theorem safe_recipientInfosUnpack (fuel : Nat) (v : Bytes) : Safe (recipientInfosUnpack fuel v) := by
  fun_induction recipientInfosUnpack fuel v with
  | case3 _ _ _ ih => simp only [ih, safe]
  | _ => exact safe_ok _

theorem post_recipientInfosUnpack (fuel : Nat) {v : Bytes} (hb : IsBytes v) :
    Post (recipientInfosUnpack fuel v) fun ris => ∀ ri ∈ ris, IsBytes ri.kekid.keyIdentifier := by
  fun_induction recipientInfosUnpack fuel v with
  | case3 _ _ _ ih =>
    exact post_bind (post_recipientInfoUnpack hb) fun _ h1 => post_bind (ih _ h1.2) fun _ h2 =>
      post_pure.mpr (List.forall_mem_cons.mpr ⟨h1.1, h2⟩)
  | _ => exact post_ok.mpr (List.forall_mem_nil _)

@[safe] theorem safe_encContentInfoUnpack (v : Bytes) : Safe (encContentInfoUnpack v) := by
  simp only [encContentInfoUnpack, safe]

@[safe] theorem safe_envelopedDataUnpack (v : Bytes) : Safe (envelopedDataUnpack v) := by
  simp only [envelopedDataUnpack, safe]

theorem post_envelopedDataUnpack {v : Bytes} (hb : IsBytes v) :
    Post (envelopedDataUnpack v) fun ed => ∀ ri ∈ ed.recipientInfos, IsBytes ri.kekid.keyIdentifier :=
  post_bind (post_rdTlv hb) fun _ hc => post_bind (post_rdInt hc.1) fun _ hc1 => post_guard fun _ =>
    post_bind (post_rdTlv hc1) fun _ hs => post_bind (post_recipientInfosUnpack _ hs.1) fun _ hris => post_bind' fun _ =>
      post_pure.mpr hris

@[safe] theorem safe_contentInfoUnpack (v : Bytes) (hd : Header) : Safe (contentInfoUnpack v hd) := by
  simp only [contentInfoUnpack, safe]

theorem post_contentInfoUnpack {v : Bytes} {hd : Header} (hb : IsBytes v) : Post (contentInfoUnpack v hd) fun p => IsBytes p.2 :=
  post_bind (post_rdTlv hb) fun _ hc => post_bind (post_rdOid hc.1) fun _ hc1 => post_bind (post_rdTlv hc1) fun _ hct =>
    post_pure.mpr hct.1

@[safe] theorem safe_readName (v : Bytes) (n : Nat) : Safe (readName v n) := by simp only [readName, safe]
@[safe] theorem safe_uuidOf (b : Bytes) : Safe (uuidOf b) := by simp only [uuidOf, safe]

@[safe] theorem safe_keyIdUnpack (v : Bytes) : Safe (keyIdUnpack v) := by simp only [keyIdUnpack, safe]

theorem post_keyIdUnpack {v : Bytes} (hb : IsBytes v) : Post (keyIdUnpack v) fun k => IsBytes k.keyInfo := by
  simp only [keyIdUnpack, post]
  exact fun _ _ _ _ _ _ _ => isBytes_take (isBytes_drop hb _) _

theorem safe_blobUnpack (data : Bytes) : Safe (blobUnpack data) := by
  unfold blobUnpack
  -- by hand down to the `match` on the decoded EnvelopedData, which the `safe` set does not split; the branches by the set
  refine safe_bind' (safe_readHeader _) fun hd => safe_bind' (safe_contentInfoUnpack _ _) fun ⟨ct, content⟩ =>
    safe_guard trivial (safe_bind' (safe_envelopedDataUnpack _) fun ed => ?_)
  split
  · simp only [safe]
    intro _ kid _
    split <;> simp only [safe]
  · simp only [safe]

theorem blobUnpack_isBytes {data : Bytes} {b : Blob} (hb : IsBytes data) (h : blobUnpack data = .ok b) : IsBytes b.keyId.keyInfo := by
  revert b
  show Post (blobUnpack data) fun b => IsBytes b.keyId.keyInfo
  refine post_bind' fun _ => post_bind (post_contentInfoUnpack (isBytes_take hb _)) fun _ hc => post_guard fun _ =>
    post_bind (post_envelopedDataUnpack hc) fun ed hris => ?_
  -- the `match` on the decoded EnvelopedData, as in `safe_blobUnpack`
  split
  · rename_i ri hri
    refine post_guard fun _ => post_bind (post_keyIdUnpack (hris ri (hri ▸ List.mem_singleton_self _))) fun _ hk => ?_
    split <;> simp only [post]
    exact fun _ _ _ => hk
  · exact post_throw.mpr trivial

end DpapiNg.Blob
