/-
  The hand-written fixed-offset decoders ARE the interpretation of the keyword → read tables that the translator
  regenerates from /repo's `unpack` / `_unpack` classmethods on every run (obligations `Gen.Fields*_eq`).
-/
import DpapiNg.Model.Fields
import DpapiNg.Proofs.Norm
namespace DpapiNg
open DpapiNg.Fields

namespace Rpc

attribute [interp] evalFields evalField enumOk getNat getRep getBytes

def headerFields : List (String × Field) :=
  [("version", .byte 0), ("version_minor", .byte 1), ("packet_type", .enum "PacketType" 2), ("packet_flags", .enum "PacketFlags" 3),
   ("data_rep", .sub "DataRep" 4 8), ("frag_len", .int 8 10), ("auth_len", .int 10 12), ("call_id", .int 12 16)]

def headerOfVals (vs : List (String × Val)) : Header :=
  ⟨getNat vs "version", getNat vs "version_minor", getNat vs "packet_type", getNat vs "packet_flags", getRep vs "data_rep",
   getNat vs "frag_len", getNat vs "auth_len", getNat vs "call_id"⟩

theorem headerUnpack_eq_fields (v : Bytes) : headerUnpack v = (evalFields v headerFields []).map headerOfVals := by
  simp only [headerUnpack, headerFields, headerOfVals, interp, except_nf]

def secTrailerFields : List (String × Field) :=
  [("type", .enum "SecurityProvider" 0), ("level", .enum "AuthenticationLevel" 1), ("pad_length", .byte 2), ("context_id", .int 4 8),
   ("auth_value", .rest 8)]

def secTrailerOfVals (vs : List (String × Val)) : SecTrailer :=
  ⟨getNat vs "type", getNat vs "level", getNat vs "pad_length", getNat vs "context_id", getBytes vs "auth_value"⟩

theorem secTrailerUnpack_eq_fields (v : Bytes) : secTrailerUnpack v = (evalFields v secTrailerFields []).map secTrailerOfVals := by
  simp only [secTrailerUnpack, secTrailerFields, secTrailerOfVals, interp, except_nf]

def syntaxFields : List (String × Field) := [("uuid", .uuid 0 16), ("version", .int 16 18), ("version_minor", .int 18 20)]

def syntaxOfVals (vs : List (String × Val)) : SyntaxId := ⟨getBytes vs "uuid", getNat vs "version", getNat vs "version_minor"⟩

theorem syntaxUnpack_eq_fields (v : Bytes) : syntaxUnpack v = (evalFields v syntaxFields []).map syntaxOfVals := by
  simp only [syntaxUnpack, syntaxFields, syntaxOfVals, interp, except_nf]

def resultFields : List (String × Field) :=
  [("result", .enumInt "ContextResultCode" 0 2), ("reason", .int 2 4), ("syntax", .uuid 4 20), ("syntax_version", .int 20 24)]

def resultOfVals (vs : List (String × Val)) : ContextResult :=
  ⟨getNat vs "result", getNat vs "reason", getBytes vs "syntax", getNat vs "syntax_version"⟩

theorem resultUnpack_eq_fields (v : Bytes) : resultUnpack v = (evalFields v resultFields []).map resultOfVals := by
  -- the model tests `res > 3`, the table `res ≤ 3`
  simp only [resultUnpack, resultFields, resultOfVals, interp, except_nf, gt_iff_lt, decide_eq_true_eq, ← Nat.not_lt]

def responseFields : List (String × Field) :=
  [("header", .param "header"), ("sec_trailer", .param "sec_trailer"), ("alloc_hint", .int 0 4), ("context_id", .int 4 6),
   ("cancel_count", .byte 6), ("stub_data", .rest 8)]

def responseOfVals (vs : List (String × Val)) : Body :=
  .response (getNat vs "alloc_hint") (getNat vs "context_id") (getNat vs "cancel_count") (getBytes vs "stub_data")

theorem responseUnpack_eq_fields (flags : Nat) (v : Bytes) :
    bodyUnpack 2 flags v = (evalFields v responseFields []).map responseOfVals := by
  simp only [bodyUnpack, responseFields, responseOfVals, interp, except_nf, Nat.reduceEqDiff, or_self]

def faultFields : List (String × Field) :=
  [("header", .param "header"), ("sec_trailer", .param "sec_trailer"), ("alloc_hint", .int 0 4), ("context_id", .int 4 6),
   ("cancel_count", .byte 6), ("flags", .enum "FaultFlags" 7), ("status", .int 8 12), ("stub_data", .rest 16)]

def faultOfVals (vs : List (String × Val)) : Body :=
  .fault (getNat vs "alloc_hint") (getNat vs "context_id") (getNat vs "cancel_count") (getNat vs "status") (getNat vs "flags")
    (getBytes vs "stub_data")

theorem faultUnpack_eq_fields (flags : Nat) (v : Bytes) :
    bodyUnpack 3 flags v = (evalFields v faultFields []).map faultOfVals := by
  simp only [bodyUnpack, faultFields, faultOfVals, interp, except_nf, Nat.reduceEqDiff, or_self]

def header2Fields : List (String × Field) :=
  [("flags", .param "flags"), ("packet_type", .enum "PacketType" 0), ("data_rep", .sub "DataRep" 4 8), ("call_id", .int 8 12),
   ("context_id", .int 12 14), ("opnum", .int 14 16)]

def header2OfVals (vs : List (String × Val)) : CmdValue :=
  .header2 (getNat vs "packet_type") (getRep vs "data_rep") (getNat vs "call_id") (getNat vs "context_id") (getNat vs "opnum")

/-- `CommandHeader2._unpack(flags, value)`: the value decoder `Command.unpack` dispatches to for command type 3 -/
theorem header2Unpack_eq_fields (v : Bytes) : cmdValueUnpack 3 v = (evalFields v header2Fields []).map header2OfVals := by
  simp only [cmdValueUnpack, header2Fields, header2OfVals, interp, except_nf, Nat.reduceEqDiff]

end Rpc
end DpapiNg
