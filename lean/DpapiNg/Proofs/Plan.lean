/-
  The hand-written `unpack` models ARE the interpretation of the decoder plans that the translator regenerates from
  /repo's `unpack` classmethods on every run (obligations `Gen.Plan*_eq : Gen.Plan* = <plan below>`).
  Local-variable names are the Python ones; the second component is the keyword → local table of the constructor call
  the method returns.
-/
import DpapiNg.Model.Plan
import DpapiNg.Proofs.Norm
namespace DpapiNg
open DpapiNg.Plan

namespace Plan

/-! Lookups in an environment built by `setInt` / `setBytes`, one update per step: the environment stays a chain of updates
    instead of being unfolded into nested closures. -/
@[interp] theorem setInt_ints (e : Env) (k : String) (v : Nat) (x : String) : (e.setInt k v).ints x = if x = k then v else e.ints x := id rfl
@[interp] theorem setInt_bytes (e : Env) (k : String) (v : Nat) : (e.setInt k v).bytes = e.bytes := id rfl
@[interp] theorem setBytes_ints (e : Env) (k : String) (v : Bytes) : (e.setBytes k v).ints = e.ints := id rfl
@[interp] theorem setBytes_bytes (e : Env) (k : String) (v : Bytes) (x : String) :
    (e.setBytes k v).bytes x = if x = k then v else e.bytes x := id rfl

attribute [interp] Plan.run Expr.eval Plan.arg

end Plan

namespace Gkdi

def envelopePlan : List Step × List (String × String) :=
  ([.int "version" 0 4, .magic 4 8, .int "flags" 8 12, .int "l0_index" 12 16, .int "l1_index" 16 20, .int "l2_index" 20 24,
    .uuid "root_key_identifier" 24 40, .int "kdf_algo_len" 40 44, .int "kdf_para_len" 44 48, .int "sec_algo_len" 48 52,
    .int "sec_para_len" 52 56, .int "priv_key_len" 56 60, .int "publ_key_len" 60 64, .int "l1_key_len" 64 68, .int "l2_key_len" 68 72,
    .int "domain_len" 72 76, .int "forest_len" 76 80, .skip 80,
    .text "kdf_algo" "kdf_algo_len", .skipLen "kdf_algo_len", .bytes "kdf_param" "kdf_para_len", .skipLen "kdf_para_len",
    .text "secret_algo" "sec_algo_len", .skipLen "sec_algo_len", .bytes "secret_param" "sec_para_len", .skipLen "sec_para_len",
    .text "domain" "domain_len", .skipLen "domain_len", .text "forest" "forest_len", .skipLen "forest_len",
    .bytes "l1_key" "l1_key_len", .skipLen "l1_key_len", .bytes "l2_key" "l2_key_len", .skipLen "l2_key_len"],
   [("version", "version"), ("flags", "flags"), ("l0", "l0_index"), ("l1", "l1_index"), ("l2", "l2_index"),
    ("root_key_identifier", "root_key_identifier"), ("kdf_algorithm", "kdf_algo"), ("kdf_parameters", "kdf_param"),
    ("secret_algorithm", "secret_algo"), ("secret_parameters", "secret_param"), ("private_key_length", "priv_key_len"),
    ("public_key_length", "publ_key_len"), ("domain_name", "domain"), ("forest_name", "forest"), ("l1_key", "l1_key"), ("l2_key", "l2_key")])

/-- `GroupKeyEnvelope(version=…, flags=…, …)` from the locals the plan bound -/
def envelopeOfEnv (ret : List (String × String)) (e : Env) : Envelope :=
  ⟨e.ints (arg ret "version"), e.ints (arg ret "flags"), e.ints (arg ret "l0"), e.ints (arg ret "l1"), e.ints (arg ret "l2"),
   e.bytes (arg ret "root_key_identifier"), e.bytes (arg ret "kdf_algorithm"), e.bytes (arg ret "kdf_parameters"),
   e.bytes (arg ret "secret_algorithm"), e.bytes (arg ret "secret_parameters"), e.ints (arg ret "private_key_length"),
   e.ints (arg ret "public_key_length"), e.bytes (arg ret "domain_name"), e.bytes (arg ret "forest_name"),
   e.bytes (arg ret "l1_key"), e.bytes (arg ret "l2_key")⟩

theorem envelopeUnpack_eq_plan (v : Bytes) :
    envelopeUnpack v = (Plan.run kdsk envelopePlan.1 v .empty).map (envelopeOfEnv envelopePlan.2) := by
  unfold envelopeUnpack readName uuidOf le32
  simp only [envelopePlan, envelopeOfEnv, interp, except_nf, Nat.reduceAdd]

def keyIdPlan : List Step × List (String × String) :=
  ([.int "version" 0 4, .magic 4 8, .int "flags" 8 12, .int "l0_index" 12 16, .int "l1_index" 16 20, .int "l2_index" 20 24,
    .uuid "root_key_identifier" 24 40, .int "key_info_len" 40 44, .int "domain_len" 44 48, .int "forest_len" 48 52, .skip 52,
    .bytes "key_info" "key_info_len", .skipLen "key_info_len", .text "domain" "domain_len", .skipLen "domain_len",
    .text "forest" "forest_len", .skipLen "forest_len"],
   [("version", "version"), ("flags", "flags"), ("l0", "l0_index"), ("l1", "l1_index"), ("l2", "l2_index"),
    ("root_key_identifier", "root_key_identifier"), ("key_info", "key_info"), ("domain_name", "domain"), ("forest_name", "forest")])

def keyIdOfEnv (ret : List (String × String)) (e : Env) : KeyId :=
  ⟨e.ints (arg ret "version"), e.ints (arg ret "flags"), e.ints (arg ret "l0"), e.ints (arg ret "l1"), e.ints (arg ret "l2"),
   e.bytes (arg ret "root_key_identifier"), e.bytes (arg ret "key_info"), e.bytes (arg ret "domain_name"), e.bytes (arg ret "forest_name")⟩

theorem keyIdUnpack_eq_plan (v : Bytes) :
    keyIdUnpack v = (Plan.run kdsk keyIdPlan.1 v .empty).map (keyIdOfEnv keyIdPlan.2) := by
  unfold keyIdUnpack readName uuidOf le32
  simp only [keyIdPlan, keyIdOfEnv, interp, except_nf, Nat.reduceAdd]

def ffcParamsPlan : List Step × List (String × String) :=
  ([.magic 4 8, .int "key_length" 8 12,
    .slice "field_order" (.lit 12) (.add (.lit 12) (.var "key_length")),
    .slice "generator" (.add (.lit 12) (.var "key_length")) (.add (.add (.lit 12) (.var "key_length")) (.var "key_length")),
    .beInt "be:field_order" "field_order", .beInt "be:generator" "generator"],
   [("key_length", "key_length"), ("field_order", "be:field_order"), ("generator", "be:generator")])

def ffcParamsOfEnv (ret : List (String × String)) (e : Env) : FfcParams :=
  ⟨e.ints (arg ret "key_length"), e.ints (arg ret "field_order"), e.ints (arg ret "generator")⟩

theorem ffcParamsUnpack_eq_plan (v : Bytes) :
    ffcParamsUnpack v = (Plan.run dhpm ffcParamsPlan.1 v .empty).map (ffcParamsOfEnv ffcParamsPlan.2) := by
  simp only [ffcParamsUnpack, ffcParamsPlan, ffcParamsOfEnv, arg, interp, except_nf]

def ffcKeyPlan : List Step × List (String × String) :=
  ([.magic 0 4, .int "key_length" 4 8, .guardLen (.add (.lit 8) (.mul (.lit 3) (.var "key_length"))),
    .slice "field_order" (.lit 8) (.add (.lit 8) (.var "key_length")), .skipE (.add (.lit 8) (.var "key_length")),
    .bytes "generator" "key_length", .skipLen "key_length", .bytes "public_key" "key_length",
    .beInt "be:field_order" "field_order", .beInt "be:generator" "generator", .beInt "be:public_key" "public_key"],
   [("key_length", "key_length"), ("field_order", "be:field_order"), ("generator", "be:generator"), ("public_key", "be:public_key")])

def ffcKeyOfEnv (ret : List (String × String)) (e : Env) : FfcKey :=
  ⟨e.ints (arg ret "key_length"), e.ints (arg ret "field_order"), e.ints (arg ret "generator"), e.ints (arg ret "public_key")⟩

theorem ffcKeyUnpack_eq_plan (v : Bytes) :
    ffcKeyUnpack v = (Plan.run dhpb ffcKeyPlan.1 v .empty).map (ffcKeyOfEnv ffcKeyPlan.2) := by
  simp only [ffcKeyUnpack, ffcKeyPlan, ffcKeyOfEnv, arg, Py.sliceN, List.drop_zero, interp, except_nf]

def kdfParamsPlan : List Step × List (String × String) :=
  ([.magicLit 0 8 [0, 0, 0, 0, 1, 0, 0, 0], .magicLit 12 16 [0, 0, 0, 0], .int "hash_length" 8 12,
    .textSub "hash_name" (.lit 16) (.add (.lit 16) (.var "hash_length")) 2],
   [("hash_name", "hash_name")])

theorem kdfParamsUnpack_eq_plan (v : Bytes) :
    kdfParamsUnpack v = (Plan.run [] kdfParamsPlan.1 v .empty).map (fun e => e.bytes (arg kdfParamsPlan.2 "hash_name")) := by
  simp only [kdfParamsUnpack, kdfParamsPlan, arg, interp, except_nf, ite_or, Int.natCast_add, Int.cast_ofNat_Int]

end Gkdi
end DpapiNg
