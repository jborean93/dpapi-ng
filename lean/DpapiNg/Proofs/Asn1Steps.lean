/-
  The reader steps of the CMS layer (`rdSeq`, `rdOid`, …: an `_asn1.py` reader followed by the cursor advance) on a TLV at
  the front of a view: a step on `tlv t c ++ rest` returns the value and `rest`.  With the two container writers.
-/
import DpapiNg.Proofs.Asn1Oid
import DpapiNg.Model.Blob
namespace DpapiNg.Blob
open DpapiNg DpapiNg.Asn1

theorem wSeq_ok (c : Bytes) : wSeq c = .ok (tlv tSEQ c) := packTLV_ok _ wf_seq c
theorem wSet_ok (c : Bytes) : wSet c = .ok (tlv tSET c) := packTLV_ok _ wf_set c

/-- a reader that consumed exactly the TLV leaves the cursor behind it -/
theorem advance {α : Type} {m : R (α × Nat)} {a : α} {t : Tag} {c : Bytes} (rest : Bytes) (h : m = .ok (a, (tlv t c).length)) :
    m.map (fun (a, n) => (a, (tlv t c ++ rest).drop n)) = .ok (a, rest) := by
  rw [h]; exact congrArg (fun r => Except.ok (a, r)) (drop_tlv t c rest)

theorem rdSeq_tlv (c rest : Bytes) (hc : c.length < Lim) : rdSeq (tlv tSEQ c ++ rest) = .ok (c, rest) :=
  advance rest (validateTag_tlv tSEQ wf_seq c rest hc none tSEQ rfl)
theorem rdSeq_hdr (t : Tag) (c rest : Bytes) :
    rdSeq (tlv t c ++ rest) (some ⟨t, headerLen t c.length, c.length⟩) = .ok (c, rest) :=
  advance rest (validateTag_tlv_header t c rest tSEQ)
theorem rdSet_tlv (c rest : Bytes) (hc : c.length < Lim) : rdSet (tlv tSET c ++ rest) = .ok (c, rest) :=
  advance rest (validateTag_tlv tSET wf_set c rest hc none tSET rfl)
theorem rdOctets_tlv (c rest : Bytes) (hc : c.length < Lim) : rdOctets (tlv tOCTET c ++ rest) = .ok (c, rest) :=
  advance rest (validateTag_tlv tOCTET wf_oct c rest hc none tOCTET rfl)
theorem rdOctets_tag (t : Tag) (ht : t.WF) (c rest : Bytes) (hc : c.length < Lim) :
    rdOctets (tlv t c ++ rest) (some t) = .ok (c, rest) :=
  advance rest (validateTag_tlv t ht c rest hc (some t) tOCTET rfl)
theorem rdInt_tlv (v : Int) (rest : Bytes) (hc : (packIntegerContent v).length < Lim) :
    rdInt (tlv tINTEGER (packIntegerContent v) ++ rest) = .ok (v, rest) :=
  advance rest (readInteger_tlv v rest hc)
theorem rdOid_tlv (a b : Nat) (r : List Nat) (hb : b ≤ 39) (rest : Bytes) (hc : (oidContent a b r).length < Lim) :
    rdOid (tlv tOID (oidContent a b r) ++ rest) = .ok (a :: b :: r, rest) :=
  advance rest (readOid_tlv a b r hb rest hc)

theorem rdUtf8_tlv (c rest : Bytes) (hv : utf8Valid c = true) (hc : c.length < Lim) :
    rdUtf8 (tlv tUTF8 c ++ rest) = .ok (c, rest) := by
  unfold rdUtf8 readUtf8Raw
  rw [validateTag_tlv tUTF8 wf_utf8 c rest hc none tUTF8 rfl, ok_bind]
  simp only [hv, if_true, drop_tlv]

end DpapiNg.Blob
