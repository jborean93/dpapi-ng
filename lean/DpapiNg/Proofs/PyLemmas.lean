/-
  Lemmas about the Py prelude used across properties: what `IsBytes` is closed under, fixed-width integers and when
  `int.to_bytes` / `struct.pack` return them, padding.  Big-endian is little-endian reversed, by `rfl`
  (`fromBE b = fromLE b.reverse`, `toBE n k = (toLE n k).reverse`); facts about concatenations are stated for `fromLE`.
-/
import DpapiNg.Model.Py
namespace DpapiNg

theorem isBytes_nil : IsBytes [] := nofun
theorem isBytes_cons {d : Nat} {ds : Bytes} : IsBytes (d :: ds) ↔ d < 256 ∧ IsBytes ds := List.forall_mem_cons
theorem isBytes_append {a b : Bytes} : IsBytes (a ++ b) ↔ IsBytes a ∧ IsBytes b := List.forall_mem_append

end DpapiNg
namespace DpapiNg.Asn1

theorem isBytes_take {b : Bytes} (h : IsBytes b) (n : Nat) : IsBytes (b.take n) := fun x hx => h x (List.mem_of_mem_take hx)
theorem isBytes_drop {b : Bytes} (h : IsBytes b) (n : Nat) : IsBytes (b.drop n) := fun x hx => h x (List.mem_of_mem_drop hx)
theorem isBytes_sliceN {b : Bytes} (h : IsBytes b) (i j : Nat) : IsBytes (Py.sliceN b i j) := isBytes_drop (isBytes_take h j) i

end DpapiNg.Asn1
namespace DpapiNg.Py

@[simp] theorem toLE_length (n k : Nat) : (toLE n k).length = k := by
  induction k generalizing n with
  | zero => rfl
  | succ k ih => simp [toLE, ih]

@[simp] theorem toBE_length (n k : Nat) : (toBE n k).length = k := by simp [toBE]

theorem toLE_isBytes (n k : Nat) : IsBytes (toLE n k) := by
  induction k generalizing n with
  | zero => exact isBytes_nil
  | succ k ih => exact isBytes_cons.mpr ⟨by omega, ih _⟩

theorem toBE_isBytes (n k : Nat) : IsBytes (toBE n k) := by
  intro x hx; exact toLE_isBytes n k x (by simpa [toBE] using hx)

theorem fromLE_toLE (n k : Nat) (h : n < 256 ^ k) : fromLE (toLE n k) = n := by
  induction k generalizing n with
  | zero => simp at h; simp [toLE, fromLE, h]
  | succ k ih =>
    have : n / 256 < 256 ^ k := by rw [Nat.pow_succ] at h; omega
    simp only [toLE, fromLE, ih _ this]; omega

/-- fixed-width big-endian integers round-trip with leading zeros kept -/
theorem fromBE_toBE (n k : Nat) (h : n < 256 ^ k) : fromBE (toBE n k) = n := by
  simp [fromBE, toBE, fromLE_toLE n k h]

theorem fromLE_append (a b : Bytes) : fromLE (a ++ b) = fromLE a + 256 ^ a.length * fromLE b := by
  induction a with
  | nil => simp [fromLE]
  | cons d ds ih =>
    simp only [List.cons_append, fromLE, ih, List.length_cons, Nat.pow_succ]
    rw [Nat.mul_add, Nat.mul_comm (256 ^ ds.length) 256, Nat.mul_assoc]; omega

theorem fromLE_lt (b : Bytes) (h : IsBytes b) : fromLE b < 256 ^ b.length := by
  induction b with
  | nil => simp [fromLE]
  | cons d ds ih =>
    obtain ⟨hd, ht⟩ := isBytes_cons.mp h
    have := ih ht
    simp only [fromLE, List.length_cons, Nat.pow_succ]; omega

/-- a byte string is the fixed-width encoding of its own value -/
theorem toLE_fromLE (b : Bytes) (h : IsBytes b) : toLE (fromLE b) b.length = b := by
  induction b with
  | nil => rfl
  | cons d ds ih =>
    obtain ⟨hd, ht⟩ := isBytes_cons.mp h
    have := ih ht
    simp only [fromLE, List.length_cons, toLE]
    have e1 : (d + 256 * fromLE ds) % 256 = d := by omega
    have e2 : (d + 256 * fromLE ds) / 256 = fromLE ds := by omega
    rw [e1, e2, this]

theorem negMod_lt (n m : Nat) (hm : 0 < m) : negMod n m < m := by
  unfold negMod; exact Nat.mod_lt _ hm

theorem negMod_aligned (n m : Nat) (hm : 0 < m) : (n + negMod n m) % m = 0 := by
  unfold negMod
  have h1 := Nat.mod_lt n hm
  by_cases h : n % m = 0
  · simp [h, Nat.mod_self]
  · have : (m - n % m) % m = m - n % m := Nat.mod_eq_of_lt (by omega)
    rw [this]
    have hd := Nat.div_add_mod n m
    have : n + (m - n % m) = m * (n / m + 1) := by rw [Nat.mul_add]; omega
    rw [this]; exact Nat.mul_mod_right _ _

/-- Two fields in one integer, the low one `i` bits wide: `|||` joins them, `/` and `%` take them apart. -/
theorem bitfields {b : Nat} (i : Nat) (h : b < 2 ^ i) (a : Nat) :
    a * 2 ^ i ||| b = a * 2 ^ i + b ∧ (a * 2 ^ i + b) / 2 ^ i = a ∧ (a * 2 ^ i + b) % 2 ^ i = b := by
  refine ⟨by rw [Nat.mul_comm, Nat.two_pow_add_eq_or_of_lt h], ?_, by rw [Nat.mul_add_mod_self_right, Nat.mod_eq_of_lt h]⟩
  rw [Nat.add_comm, Nat.add_mul_div_right _ _ (Nat.two_pow_pos i), Nat.div_eq_of_lt h, Nat.zero_add]

@[simp] theorem zeros_length (n : Nat) : (zeros n).length = n := by simp [zeros]

theorem fromBE_lt (b : Bytes) (h : IsBytes b) : fromBE b < 256 ^ b.length := by
  have := fromLE_lt b.reverse (fun x hx => h x (List.mem_reverse.mp hx))
  rwa [List.length_reverse] at this

theorem toBytesLE_natCast (n k : Nat) : toBytesLE (n : Int) k = if n < 256 ^ k then .ok (toLE n k) else .error .overflowError := by
  rw [toBytesLE, if_neg (by omega), Int.toNat_natCast]

theorem toBytesBE_natCast (n k : Nat) : toBytesBE (n : Int) k = if n < 256 ^ k then .ok (toBE n k) else .error .overflowError := by
  rw [toBytesBE, if_neg (by omega), Int.toNat_natCast]

theorem toBytesLE_ok (n k : Nat) (h : n < 256 ^ k) : toBytesLE (n : Int) k = .ok (toLE n k) := (toBytesLE_natCast n k).trans (if_pos h)
theorem toBytesBE_ok (n k : Nat) (h : n < 256 ^ k) : toBytesBE (n : Int) k = .ok (toBE n k) := (toBytesBE_natCast n k).trans (if_pos h)

theorem toBytesBE_eq_ok {n k : Nat} {b : Bytes} (h : toBytesBE (n : Int) k = .ok b) : n < 256 ^ k ∧ b = toBE n k := by
  rw [toBytesBE_natCast] at h
  split at h
  · exact ⟨‹_›, (Except.ok.inj h).symm⟩
  · cases h

/-- a conversion returns bytes or raises `OverflowError` -/
theorem toBytesBE_cases (n : Int) (k : Nat) : (∃ b, toBytesBE n k = .ok b) ∨ toBytesBE n k = .error .overflowError := by
  unfold toBytesBE; repeat' split
  · exact .inr rfl
  · exact .inl ⟨_, rfl⟩
  · exact .inr rfl
theorem toBytesLE_cases (n : Int) (k : Nat) : (∃ b, toBytesLE n k = .ok b) ∨ toBytesLE n k = .error .overflowError := by
  unfold toBytesLE; repeat' split
  · exact .inr rfl
  · exact .inl ⟨_, rfl⟩
  · exact .inr rfl

/-- a wider little-endian field is the narrower one followed by the digits of the quotient -/
theorem toLE_add (n a b : Nat) : toLE n (a + b) = toLE n a ++ toLE (n / 256 ^ a) b := by
  induction a generalizing n with
  | zero => simp [toLE]
  | succ a ih =>
    have : a + 1 + b = (a + b) + 1 := by omega
    rw [this]
    simp only [toLE, List.cons_append]
    rw [ih (n / 256)]
    congr 2
    rw [Nat.pow_succ, Nat.div_div_eq_div_mul, Nat.mul_comm]

theorem toBytesLESigned4_ok (v : Int) (h : -2147483648 ≤ v ∧ v ≤ 2147483647) :
    toBytesLESigned v 4 = .ok (toLE (v % 4294967296).toNat 4) := by
  unfold toBytesLESigned
  have h1 : ¬ (4 = 0) := by omega
  have h2 : -(2 ^ (8 * 4 - 1) : Int) ≤ v ∧ v < (2 ^ (8 * 4 - 1) : Int) := by
    have : (2 ^ (8 * 4 - 1) : Int) = 2147483648 := by decide
    omega
  have h3 : (256 ^ 4 : Int) = 4294967296 := by decide
  simp only [h1, if_false, h2, and_self, if_true, h3]

theorem fromLESigned4 (v : Int) (h : -2147483648 ≤ v ∧ v ≤ 2147483647) :
    fromLESigned (toLE (v % 4294967296).toNat 4) = v := by
  unfold fromLESigned
  have hlt : (v % 4294967296).toNat < 256 ^ 4 := by
    have : (256 ^ 4 : Nat) = 4294967296 := by decide
    omega
  rw [fromLE_toLE _ _ hlt]
  simp only [toLE_length]
  have h4 : ¬ (4 = 0) := by omega
  have e1 : (2 ^ (8 * 4 - 1) : Nat) = 2147483648 := by decide
  have e2 : (256 ^ 4 : Int) = 4294967296 := by decide
  simp only [h4, if_false, e1, e2]
  split <;> omega

end DpapiNg.Py
