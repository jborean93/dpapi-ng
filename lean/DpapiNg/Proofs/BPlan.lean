/-
  `Blob.blobPack` (the model of `DPAPINGBlob.pack`, both layouts) IS the interpretation of the pack plan that the translator regenerates
  from /repo's source on every run (obligations `Gen.BPlanBlob_eq`, `Gen.BPlanSchema_eq`, closed by `rfl`), with every CMS
  object packed by the regenerated writer programs of `Proofs/WProg.lean`.  Together with `C06.blob_layout` (model = minimal DER of the
  RFC 5652 tree) this ties the emitted bytes to the specification from the source's own structure.
-/
import DpapiNg.Model.BPlan
import DpapiNg.Proofs.WProg
namespace DpapiNg.Blob
open DpapiNg DpapiNg.Asn1 DpapiNg.WProg DpapiNg.BPlan

def blobPackPlan : List Step × List CExpr :=
  ([.bind "recipient_info" (.obj "KEKRecipientInfo"
      [("version", .int 4),
       ("kekid", .obj "KEKIdentifier" [("key_identifier", .packOf "key_identifier"),
          ("other", .obj "OtherKeyAttribute" [("key_attr_id", .oid oidMicrosoftSoftware), ("key_attr", .packOf "protection_descriptor")])]),
       ("key_encryption_algorithm", .obj "AlgorithmIdentifier" [("algorithm", .field "enc_cek_algorithm"), ("parameters", .field "enc_cek_parameters")]),
       ("encrypted_key", .field "enc_cek")]),
    .bind "enveloped_data" (.obj "EnvelopedData"
      [("version", .int 2), ("recipient_infos", .list [.var "recipient_info"]),
       ("encrypted_content_info", .obj "EncryptedContentInfo"
          [("content_type", .oid oidData),
           ("algorithm", .obj "AlgorithmIdentifier" [("algorithm", .field "enc_content_algorithm"), ("parameters", .field "enc_content_parameters")]),
           ("content", .ifLayout (.field "enc_content") .emptyBytes)])]),
    .packTo "enveloped_data" "EnvelopedData",
    .bind "content_info" (.obj "ContentInfo" [("content_type", .oid oidEnvelopedData), ("content", .buf "enveloped_data")]),
    .packTo "content_info" "ContentInfo"],
   [.buf "content_info", .ifLayout .emptyBytes (.field "enc_content")])

/-- dataclass fields (those `__init__` takes) in declaration order; the translator regenerates this table too (`Gen.BPlanSchema_eq`) -/
def schemaTable : List (String × List String) :=
  [("AlgorithmIdentifier", ["algorithm", "parameters"]),
   ("ContentInfo", ["content_type", "content"]),
   ("EncryptedContentInfo", ["content_type", "algorithm", "content"]),
   ("EnvelopedData", ["version", "recipient_infos", "encrypted_content_info"]),
   ("KEKIdentifier", ["key_identifier", "date", "other"]),
   ("KEKRecipientInfo", ["version", "kekid", "key_encryption_algorithm", "encrypted_key"]),
   ("OtherKeyAttribute", ["key_attr_id", "key_attr"])]
def schema (cls : String) : List String := (schemaTable.lookup cls).getD []

def call3 : String → Val → R Bytes := fun cls v =>
  if cls = "EnvelopedData" then runOps call2 v envelopedDataProg
  else if cls = "ContentInfo" then runOps WProg.noCall v contentInfoProg
  else call2 cls v

def blobEnv (b : Blob) (inEnvelope : Bool) : BPlan.Env where
  fields f :=
    if f = "enc_cek_algorithm" then .oid b.encCekAlg else if f = "enc_cek_parameters" then optBytes b.encCekParams
    else if f = "enc_cek" then .bytes b.encCek else if f = "enc_content_algorithm" then .oid b.encContentAlg
    else if f = "enc_content_parameters" then optBytes b.encContentParams else if f = "enc_content" then .bytes b.encContent else .none
  packs f :=
    if f = "key_identifier" then Gkdi.keyIdPack b.keyId else if f = "protection_descriptor" then protDescPack b.sid else .error .keyError
  inEnvelope := inEnvelope
  schema := schema
  vars := []
  bufs := []

attribute [interp] runSteps runJoin eval evalFields evalList

theorem blobPack_eq_plan (b : Blob) (inEnvelope : Bool) :
    blobPack b inEnvelope = BPlan.run call3 blobPackPlan (blobEnv b inEnvelope) := by
  unfold blobPack blobPackPlan BPlan.run
  cases inEnvelope <;>
  simp only [interp, except_nf, blobEnv, schema, schemaTable, call3, envelopedDataPack_eq_prog, contentInfoPack_eq_prog, EnvelopedData.toVal, KekRi.toVal, KekId.toVal,
          OtherAttr.toVal, AlgId.toVal, EncContentInfo.toVal, contentInfoVal, optBytes_some]
end DpapiNg.Blob
