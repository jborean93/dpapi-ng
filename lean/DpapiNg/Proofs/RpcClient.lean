/-
  `_process_response` in three stages — open the sealed region, decode, accept or reject — and what
  `_process_bind_ack` hands on.  C15 and C16 read their statements off these.  `accept` stands unapplied under the last
  `>>=`: to unfold it for every decoded PDU, go under the bind first (`bind_congr_ok fun p _ => ?_`).
-/
import DpapiNg.Model.RpcClient
import DpapiNg.Proofs.Norm
namespace DpapiNg.RpcClient
open DpapiNg DpapiNg.Rpc

/-- first stage of `_process_response`: `unwrap_iov` and the in-place splice of the plaintext; only a sealed call
    whose reply carries a signature has anything to open -/
def openReply (auth : Option Auth) (signHeader : Bool) (response : Bytes) (h : Header) (offsets : Option (Nat × Nat)) : R Bytes :=
  match auth, offsets with
  | some a, some (s, _) =>
    if h.authLen ≠ 0 then do
      let off : Int := (h.fragLen : Int) - ((h.authLen : Int) + 8)
      let dec ← a.unwrap signHeader (response.take s) (Py.slice response s off) (Py.slice response off (off + 8))
        (Py.sliceFrom response (off + 8))
      pure (response.take (Py.clampIdx response.length s) ++ dec ++
        response.drop (max (Py.clampIdx response.length off) (Py.clampIdx response.length s)))
    else pure response
  | _, _ => pure response

/-- last stage: a decoded PDU is handed on iff it is of the expected kind, except that a sealed call whose reply came in
    clear (`sealedClear`) gets no response at all -/
def accept (sealedClear : Prop) [Decidable sealedClear] (ex : Expect) (p : Pdu) : R Pdu :=
  if ex.matches p.body = true ∧ ¬ (ex = .response ∧ sealedClear) then .ok p else .error .valueError

theorem processResponse_eq (auth : Option Auth) (sign : Bool) (resp : Bytes) (h : Header) (ex : Expect) (offs : Option (Nat × Nat)) :
    processResponse auth sign resp h ex offs =
      openReply auth sign resp h offs >>= fun r => pduUnpack r >>= accept ((auth.isSome ∧ offs.isSome) ∧ h.authLen = 0) ex := by
  unfold processResponse
  refine bind_congr_ok fun r _ => bind_congr_ok fun ⟨ph, tr, b⟩ _ => ?_
  -- a finite table (3 expectations × 6 kinds of PDU); only a response body consults `sealedClear`
  cases b with
  | response =>
    by_cases hs : (auth.isSome = true ∧ offs.isSome = true) ∧ h.authLen = 0 <;> cases ex <;>
      simp [accept, hs, Expect.matches, except_nf]
  | bindAck isAlter => cases isAlter <;> cases ex <;> rfl
  | _ => cases ex <;> rfl

theorem openReply_none (auth : Option Auth) (sign : Bool) (resp : Bytes) (h : Header) :
    openReply auth sign resp h none = .ok resp := by cases auth <;> rfl

theorem openReply_clear (auth : Option Auth) (sign : Bool) (resp : Bytes) (h : Header) (offs : Option (Nat × Nat))
    (h0 : h.authLen = 0) : openReply auth sign resp h offs = .ok resp := by
  unfold openReply; split
  · rw [if_neg (by simp [h0])]; rfl
  · rfl

/-- what `_process_bind_ack` hands on besides the accepted contexts: the ack's auth value, and header signing only if it was
    on and the ack advertises it -/
theorem processBindAck_eq_ok {ack : Pdu} {ctxs fc : List ContextElement} {tok : Option Bytes} {sh sh' : Bool}
    (h : processBindAck ack ctxs sh = .ok (fc, tok, sh')) :
    tok = ack.secTrailer.map (·.authValue) ∧ sh' = if ack.header.packetFlags / 4 % 2 = 1 then sh else false := by
  unfold processBindAck at h
  split at h
  · obtain ⟨_, _, h⟩ := bind_ok_iff.mp h
    cases h; exact ⟨rfl, rfl⟩
  · cases h

end DpapiNg.RpcClient
