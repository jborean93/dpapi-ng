/-
  The hand-written `unpack` models of `_pkcs7.py` / `_blob.py` ARE the interpretation of the ASN.1 reader programs
  that the translator regenerates from /repo's source on every run
  (obligations `Gen.RProg*_eq : Gen.RProg* = <program below>`, closed by `rfl`).
  Local-variable and keyword names are the Python ones; the decoded objects are compared as `Val`s built by the
  same `toVal` functions the writer programs read their fields from (`Proofs/WProg.lean`).
-/
import DpapiNg.Model.RProg
import DpapiNg.Proofs.WProg
namespace DpapiNg.Blob
open DpapiNg DpapiNg.Asn1 DpapiNg.WProg DpapiNg.RProg

def algIdRProg : List RProg.Op × Ret :=
  ([.enter false, .readOid "algorithm", .setNone "parameters", .ifMore [.remaining "parameters"]],
   .build [("algorithm", "algorithm"), ("parameters", "parameters")])
def otherAttrRProg : List RProg.Op × Ret :=
  ([.enter true, .readOid "key_attr_id", .setNone "key_attr", .ifMore [.remaining "key_attr"]],
   .build [("key_attr_id", "key_attr_id"), ("key_attr", "key_attr")])
def kekIdRProg : List RProg.Op × Ret :=
  ([.enter false, .readOctets "key_identifier" none, .peek, .setNone "date", .ifHeader 0 24 [.readGenTime "date" true, .peek],
    .setNone "other", .ifHeader 0 16 [.sub "other" "OtherKeyAttribute" true]],
   .build [("key_identifier", "key_identifier"), ("date", "date"), ("other", "other")])
def kekRiRProg : List RProg.Op × Ret :=
  ([.enter true, .readInt "version", .sub "kekid" "KEKIdentifier" false, .sub "key_encryption_algorithm" "AlgorithmIdentifier" false,
    .readOctets "encrypted_key" none],
   .build [("version", "version"), ("kekid", "kekid"), ("key_encryption_algorithm", "key_encryption_algorithm"),
           ("encrypted_key", "encrypted_key")])
def recipientInfoRProg : List RProg.Op × Ret := ([.peek], .dispatch 2 2 "KEKRecipientInfo" .notImplemented)
def encContentInfoRProg : List RProg.Op × Ret :=
  ([.enter false, .readOid "content_type", .sub "content_encryption_algorithm" "AlgorithmIdentifier" false, .setNone "enc_content",
    .ifMore [.readOctets "enc_content" (some (ctx 0 false))]],
   .build [("content_type", "content_type"), ("algorithm", "content_encryption_algorithm"), ("content", "enc_content")])
def envelopedDataRProg : List RProg.Op × Ret :=
  ([.enter false, .readInt "version", .requireInt "version" 2 .notImplemented, .setOfLoop "recipient_infos" "RecipientInfo",
    .sub "enc_content" "EncryptedContentInfo" false],
   .build [("version", "version"), ("recipient_infos", "recipient_infos"), ("encrypted_content_info", "enc_content")])
def contentInfoRProg : List RProg.Op × Ret :=
  ([.enter true, .readOid "content_type", .readOctets "content" (some (ctx 0 true))],
   .build [("content_type", "content_type"), ("content", "content")])
def protDescRProg : List RProg.Op × Ret :=
  ([.enter false, .readOid "content_type", .enter false, .enter false, .enter false, .readUtf8 "value_type", .readUtf8 "value"],
   .guarded [.oidIs "content_type" oidSidProtector, .textIs "value_type" utf8SID] "value" .valueError)

/-- the class tables: `Cls.unpack(reader[, header=header])` -/
def rcall0 : Call := fun cls v h =>
  if cls = "AlgorithmIdentifier" then RProg.run RProg.noCall algIdRProg v h
  else if cls = "OtherKeyAttribute" then RProg.run RProg.noCall otherAttrRProg v h
  else .error .typeError
def rcall1 : Call := fun cls v h => if cls = "KEKIdentifier" then RProg.run rcall0 kekIdRProg v h else rcall0 cls v h
def rcall2 : Call := fun cls v h =>
  if cls = "KEKRecipientInfo" then RProg.run rcall1 kekRiRProg v h
  else if cls = "EncryptedContentInfo" then RProg.run rcall1 encContentInfoRProg v h
  else rcall1 cls v h
def rcall3 : Call := fun cls v h => if cls = "RecipientInfo" then RProg.run rcall2 recipientInfoRProg v h else rcall2 cls v h

attribute [interp] RProg.runOps RProg.runOp RProg.runRet St.set St.get Cond.holds List.all

theorem algIdUnpack_eq_prog (v : Bytes) :
    (algIdUnpack v).map (fun p => (p.1.toVal, p.2)) = RProg.run RProg.noCall algIdRProg v none := by
  unfold algIdUnpack algIdRProg RProg.run
  simp only [interp, except_nf, AlgId.toVal]
  refine bind_congr fun a => bind_congr fun b => ?_
  split <;> rfl

theorem otherAttr_run (v : Bytes) (h : Option Header) :
    RProg.run RProg.noCall otherAttrRProg v h =
      (do let (oc, rest) ← rdSeq v h
          let (id, oc1) ← rdOid oc
          pure ((OtherAttr.mk id (if oc1 = [] then none else some oc1)).toVal, rest)) := by
  unfold otherAttrRProg RProg.run
  simp only [interp, except_nf, OtherAttr.toVal]
  refine bind_congr fun a => bind_congr fun b => ?_
  split <;> rfl

theorem kekIdUnpack_eq_prog (v : Bytes) :
    (kekIdUnpack v).map (fun p => (p.1.toVal, p.2)) = RProg.run rcall0 kekIdRProg v none := by
  unfold kekIdUnpack kekIdRProg RProg.run
  simp only [interp, except_nf, rcall0, otherAttr_run, KekId.toVal]

theorem rcall1_kekid (v : Bytes) : rcall1 "KEKIdentifier" v none = (kekIdUnpack v).map (fun p => (p.1.toVal, p.2)) := by
  simp only [rcall1, interp, kekIdUnpack_eq_prog]
theorem rcall1_alg (v : Bytes) : rcall1 "AlgorithmIdentifier" v none = (algIdUnpack v).map (fun p => (p.1.toVal, p.2)) := by
  simp only [rcall1, rcall0, interp, algIdUnpack_eq_prog]

theorem kekRi_run (v : Bytes) (h : Option Header) :
    RProg.run rcall1 kekRiRProg v h =
      (do let (c, rest) ← rdSeq v h
          let (ver, c1) ← rdInt c
          let (kid, c2) ← kekIdUnpack c1
          let (alg, c3) ← algIdUnpack c2
          let (ek, _) ← rdOctets c3
          pure ((KekRi.mk ver kid alg ek).toVal, rest)) := by
  unfold kekRiRProg RProg.run
  simp only [interp, except_nf, rcall1_kekid, rcall1_alg, KekRi.toVal]

theorem recipientInfoUnpack_eq_prog (v : Bytes) :
    (recipientInfoUnpack v).map (fun p => (p.1.toVal, p.2)) = RProg.run rcall2 recipientInfoRProg v none := by
  unfold recipientInfoUnpack recipientInfoRProg RProg.run
  have hk (h) : rcall2 "KEKRecipientInfo" v h = RProg.run rcall1 kekRiRProg v h := by simp only [rcall2, interp]
  simp only [interp, except_nf, hk, kekRi_run]

theorem rcall2_alg (v : Bytes) : rcall2 "AlgorithmIdentifier" v none = (algIdUnpack v).map (fun p => (p.1.toVal, p.2)) := by
  simp only [rcall2, interp, rcall1_alg]

theorem encContentInfoUnpack_eq_prog (v : Bytes) :
    (encContentInfoUnpack v).map (fun p => (p.1.toVal, p.2)) = RProg.run rcall1 encContentInfoRProg v none := by
  unfold encContentInfoUnpack encContentInfoRProg RProg.run
  simp only [interp, except_nf, rcall1_alg, EncContentInfo.toVal]

theorem rcall3_ri (v : Bytes) : rcall3 "RecipientInfo" v none = (recipientInfoUnpack v).map (fun p => (p.1.toVal, p.2)) := by
  simp only [rcall3, interp, recipientInfoUnpack_eq_prog]
theorem rcall3_eci (v : Bytes) : rcall3 "EncryptedContentInfo" v none = (encContentInfoUnpack v).map (fun p => (p.1.toVal, p.2)) := by
  simp only [rcall3, rcall2, interp, encContentInfoUnpack_eq_prog]

theorem loop_eq (n : Nat) (b : Bytes) :
    RProg.loop rcall3 "RecipientInfo" n b = (recipientInfosUnpack n b).map (List.map KekRi.toVal) := by
  induction n generalizing b with
  | zero => cases b <;> rfl
  | succ k ih =>
    cases b with
    | nil => rfl
    | cons x xs => simp only [RProg.loop, recipientInfosUnpack, rcall3_ri, ih, except_nf, List.map]

theorem envelopedDataUnpack_eq_prog (v : Bytes) :
    (envelopedDataUnpack v).map EnvelopedData.toVal = (RProg.run rcall3 envelopedDataRProg v none).map Prod.fst := by
  unfold envelopedDataUnpack envelopedDataRProg RProg.run
  simp only [interp, except_nf, rcall3_eci, loop_eq, EnvelopedData.toVal]

theorem contentInfoUnpack_eq_prog (v : Bytes) (h : Header) :
    (contentInfoUnpack v h).map (fun p => contentInfoVal p.1 p.2) = (RProg.run RProg.noCall contentInfoRProg v (some h)).map Prod.fst := by
  unfold contentInfoUnpack contentInfoRProg RProg.run
  simp only [interp, except_nf, contentInfoVal]

theorem protDescUnpack_eq_prog (v : Bytes) :
    (protDescUnpack v).map Val.bytes = (RProg.run RProg.noCall protDescRProg v none).map Prod.fst := by
  unfold protDescUnpack protDescRProg RProg.run
  simp only [interp, except_nf, Bool.and_true, Bool.and_eq_true, beq_iff_eq]

end DpapiNg.Blob
