/-
  `Safe r`: the computation `r` either returns or raises a *deliberate* error (C05).
  A small calculus over the `Except` monad: `Safe` of a `>>=`, an `if` or a `map` is equivalent to `Safe` of the parts, so
  the `safe` simp set splits a `do` block into one obligation per primitive step and closes those that are lemmas of the
  set; a pipeline is safe as soon as its leaves are.  A leaf that needs a hypothesis (`CryptoSafe C`, `IsBytes v`) cannot be
  in the set: name it, applied to the hypothesis, in the call (`simp only [safe_cekDecrypt C hC, safe]`).
-/
import DpapiNg.Model.Py
import DpapiNg.Proofs.Norm
namespace DpapiNg

def Safe {α : Type} (r : R α) : Prop := ∀ e, r = .error e → Deliberate e

@[simp, safe] theorem safe_ok {α : Type} (a : α) : Safe (Except.ok a : R α) := by intro e h; cases h
@[simp, safe] theorem safe_pure {α : Type} (a : α) : Safe (pure a : R α) := by intro e h; cases h
@[simp, safe] theorem safe_error {α : Type} (e : PyErr) : Safe (Except.error e : R α) ↔ Deliberate e :=
  ⟨fun h => h e rfl, fun h e' h' => by cases h'; exact h⟩
@[simp, safe] theorem safe_throw {α : Type} (e : PyErr) : Safe (throw e : R α) ↔ Deliberate e := safe_error e

@[simp, safe] theorem deliberate_valueError : Deliberate .valueError := trivial
@[simp, safe] theorem deliberate_notImplemented : Deliberate .notImplemented := trivial
@[simp, safe] theorem deliberate_notEnoughData : Deliberate .notEnoughData := trivial
@[simp, safe] theorem deliberate_invalidTag : Deliberate .invalidTag := trivial
@[simp, safe] theorem deliberate_invalidUnwrap : Deliberate .invalidUnwrap := trivial

@[safe] theorem safe_bind_iff {α β : Type} {m : R α} {f : α → R β} : Safe (m >>= f) ↔ Safe m ∧ ∀ a, m = .ok a → Safe (f a) := by
  cases m with
  | error e => exact ⟨fun h => ⟨fun e' h' => h e' (by cases h'; rfl), nofun⟩, fun h e' h' => h.1 e' (by cases h'; rfl)⟩
  | ok a => exact ⟨fun h => ⟨safe_ok a, fun _ h' => by cases h'; exact h⟩, fun h => h.2 a rfl⟩

@[safe] theorem safe_map_iff {α β : Type} {m : R α} {f : α → β} : Safe (m.map f) ↔ Safe m := by
  cases m with
  | error e => exact ⟨fun h e' h' => h e' (by cases h'; rfl), fun h e' h' => h e' (by cases h'; rfl)⟩
  | ok a => exact ⟨fun _ => safe_ok a, fun _ => safe_ok (f a)⟩

@[safe] theorem safe_ite_iff {α : Type} {c : Prop} [Decidable c] {a b : R α} : Safe (if c then a else b) ↔ (c → Safe a) ∧ (¬ c → Safe b) := by
  split <;> simp [*]

attribute [safe] throw_ne_ok implies_true false_implies and_self and_true true_and forall_const

theorem safe_bind {α β : Type} {m : R α} {f : α → R β} (hm : Safe m) (hf : ∀ a, m = .ok a → Safe (f a)) : Safe (m >>= f) :=
  safe_bind_iff.mpr ⟨hm, hf⟩

theorem safe_bind' {α β : Type} {m : R α} {f : α → R β} (hm : Safe m) (hf : ∀ a, Safe (f a)) : Safe (m >>= f) :=
  safe_bind hm fun a _ => hf a

theorem safe_map {α β : Type} {m : R α} {f : α → β} (hm : Safe m) : Safe (m.map f) := safe_map_iff.mpr hm

theorem safe_ite {α : Type} {c : Prop} [Decidable c] {a b : R α} (ha : c → Safe a) (hb : ¬ c → Safe b) : Safe (if c then a else b) :=
  safe_ite_iff.mpr ⟨ha, hb⟩

/-- `if c: raise e` in the middle of a `do` block (the join-point shape the `do` elaborator produces) -/
theorem safe_guard {β : Type} {c : Prop} [Decidable c] {e : PyErr} {f : PUnit → R β} (he : Deliberate e) (hf : Safe (f ⟨⟩)) :
    Safe (if c then (throw e : R PUnit) >>= f else f ⟨⟩) := by
  split
  · intro e' h; cases h; exact he
  · exact hf

/-! ### the success side: `Post r P`, whatever `r` returns satisfies `P`

  `Safe r ∧ Post r P` is the total-correctness reading of "raises deliberately or returns something with `P`".  The closure
  rules are again equivalences (simp set `post`): on a function that only branches they leave the arithmetic of the leaves.
  Where the fact about one step is needed for the next (`IsBytes` of the view a reader leaves), `post_bind` is the
  sequencing rule with the intermediate assertion, `post_bind'` skips a step that contributes nothing. -/

def Post {α : Type} (r : R α) (P : α → Prop) : Prop := ∀ a, r = .ok a → P a

@[post] theorem post_ok {α : Type} {a : α} {P : α → Prop} : Post (Except.ok a : R α) P ↔ P a :=
  ⟨fun h => h a rfl, fun h _ h' => by cases h'; exact h⟩
@[post] theorem post_pure {α : Type} {a : α} {P : α → Prop} : Post (pure a : R α) P ↔ P a := post_ok
@[post] theorem post_error {α : Type} {e : PyErr} {P : α → Prop} : Post (Except.error e : R α) P ↔ True :=
  ⟨fun _ => trivial, fun _ _ h => nomatch h⟩
@[post] theorem post_throw {α : Type} {e : PyErr} {P : α → Prop} : Post (throw e : R α) P ↔ True := post_error

@[post] theorem post_bind_iff {α β : Type} {m : R α} {f : α → R β} {P : β → Prop} :
    Post (m >>= f) P ↔ ∀ a, m = .ok a → Post (f a) P :=
  ⟨fun h a ha b hb => h b (bind_ok_iff.mpr ⟨a, ha, hb⟩), fun h b hb => have ⟨a, ha, hb⟩ := bind_ok_iff.mp hb; h a ha b hb⟩

@[post] theorem post_map_iff {α β : Type} {m : R α} {f : α → β} {P : β → Prop} : Post (m.map f) P ↔ ∀ a, m = .ok a → P (f a) :=
  ⟨fun h a ha => h _ (map_ok_iff.mpr ⟨a, ha, rfl⟩), fun h _ hb => have ⟨a, ha, hb⟩ := map_ok_iff.mp hb; hb ▸ h a ha⟩

@[post] theorem post_ite_iff {α : Type} {c : Prop} [Decidable c] {a b : R α} {P : α → Prop} :
    Post (if c then a else b) P ↔ (c → Post a P) ∧ (¬ c → Post b P) := by
  split <;> simp [*]

attribute [post] throw_ne_ok implies_true false_implies and_self and_true true_and forall_const

theorem post_bind {α β : Type} {m : R α} {f : α → R β} {Q : α → Prop} {P : β → Prop} (hm : Post m Q) (hf : ∀ a, Q a → Post (f a) P) :
    Post (m >>= f) P :=
  post_bind_iff.mpr fun a ha => hf a (hm a ha)

theorem post_bind' {α β : Type} {m : R α} {f : α → R β} {P : β → Prop} (hf : ∀ a, Post (f a) P) : Post (m >>= f) P :=
  post_bind_iff.mpr fun a _ => hf a

/-- `if c: raise e` in the middle of a `do` block -/
theorem post_guard {β : Type} {c : Prop} [Decidable c] {e : PyErr} {f : PUnit → R β} {P : β → Prop} (hf : ¬ c → Post (f ⟨⟩) P) :
    Post (if c then (throw e : R PUnit) >>= f else f ⟨⟩) P :=
  fun _ h => have ⟨hc, h⟩ := guard_ok_iff.mp h; hf hc _ h

end DpapiNg
