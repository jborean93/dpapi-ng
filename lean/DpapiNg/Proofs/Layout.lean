/-
  The hand-written `pack` models ARE the interpretation of the byte layouts that the translator regenerates
  from /repo's `b"".join([...])` expressions on every run (obligations `Gen.Layout*_eq : Gen.Layout* = <layout below>`).
  Field names are the Python ones; `utf16z:x` is `(self.x + "\0").encode("utf-16-le")`, `uuid_le:x` is `self.x.bytes_le`,
  `pack:x` is `self.x.pack()`, `optpack:x` is `self.x.pack() if self.x else b""`, `opt_uuid_le:x` likewise for a UUID.
  The `interp` set unfolds `Layout.pack` along a literal list of items (for `l₁ ++ l₂`, name `List.cons_append` in the call).
-/
import DpapiNg.Model.Layout
import DpapiNg.Model.Gkdi
import DpapiNg.Model.Rpc
import DpapiNg.Model.SecDesc
import DpapiNg.Proofs.PyLemmas
import DpapiNg.Proofs.Norm
namespace DpapiNg
open DpapiNg.Layout

namespace Layout

/-- the bytes one item contributes -/
def item (env : Env) : Item → R Bytes
  | .int f w => Py.toBytesLE (env.ints f : Int) w
  | .lenOf f w => env.bytes f >>= fun x => Py.toBytesLE (x.length : Int) w
  | .bytes f => env.bytes f
  | .const c => .ok c
  | .lenPlus k f w => env.bytes f >>= fun x => Py.toBytesLE ((k + x.length : Nat) : Int) w
  | .countOf f w => Py.toBytesLE (env.counts f : Int) w
  | .zerosNegMod k f m => env.bytes f >>= fun x => .ok (Py.zeros (Py.negMod (k + x.length) m))

theorem pack_nil (env : Env) : pack env [] = .ok [] := id rfl

theorem pack_cons (env : Env) (it : Item) (rest : List Item) :
    pack env (it :: rest) = item env it >>= fun a => pack env rest >>= fun b => .ok (a ++ b) := by
  cases it <;> simp only [pack, item, except_nf]

/-- `pack` under a continuation: unfolded along a literal layout this way (before the parts are visited) it yields one flat
    chain of binds and nothing is left to re-associate -/
theorem pack_cons_bind {β : Type} (env : Env) (it : Item) (rest : List Item) (k : Bytes → R β) :
    pack env (it :: rest) >>= k = item env it >>= fun a => pack env rest >>= fun b => k (a ++ b) := by
  simp only [pack_cons, except_nf]

attribute [interp] pack_nil pack_cons item
attribute [interp ↓] pack_cons_bind

end Layout

namespace Gkdi

def envelopeLayout : List Item :=
  [.int "version" 4, .bytes "magic", .int "flags" 4, .int "l0" 4, .int "l1" 4, .int "l2" 4, .bytes "uuid_le:root_key_identifier",
   .lenOf "utf16z:kdf_algorithm" 4, .lenOf "kdf_parameters" 4, .lenOf "utf16z:secret_algorithm" 4, .lenOf "secret_parameters" 4,
   .int "private_key_length" 4, .int "public_key_length" 4, .lenOf "l1_key" 4, .lenOf "l2_key" 4,
   .lenOf "utf16z:domain_name" 4, .lenOf "utf16z:forest_name" 4,
   .bytes "utf16z:kdf_algorithm", .bytes "kdf_parameters", .bytes "utf16z:secret_algorithm", .bytes "secret_parameters",
   .bytes "utf16z:domain_name", .bytes "utf16z:forest_name", .bytes "l1_key", .bytes "l2_key"]

def envelopeEnv (e : Envelope) : Env where
  ints f := if f = "version" then e.version else if f = "flags" then e.flags else if f = "l0" then e.l0 else if f = "l1" then e.l1
    else if f = "l2" then e.l2 else if f = "private_key_length" then e.privateKeyLength else if f = "public_key_length" then e.publicKeyLength else 0
  bytes f := if f = "magic" then .ok kdsk else if f = "uuid_le:root_key_identifier" then .ok e.rootKeyId
    else if f = "utf16z:kdf_algorithm" then .ok (e.kdfAlgorithm ++ [0, 0]) else if f = "kdf_parameters" then .ok e.kdfParameters
    else if f = "utf16z:secret_algorithm" then .ok (e.secretAlgorithm ++ [0, 0]) else if f = "secret_parameters" then .ok e.secretParameters
    else if f = "utf16z:domain_name" then .ok (e.domainName ++ [0, 0]) else if f = "utf16z:forest_name" then .ok (e.forestName ++ [0, 0])
    else if f = "l1_key" then .ok e.l1Key else if f = "l2_key" then .ok e.l2Key else .error .keyError

theorem envelopePack_eq_layout (e : Envelope) : envelopePack e = Layout.pack (envelopeEnv e) envelopeLayout := by
  simp only [envelopePack, envelopeLayout, envelopeEnv, u32, interp, except_nf]

def keyIdLayout : List Item :=
  [.int "version" 4, .bytes "magic", .int "flags" 4, .int "l0" 4, .int "l1" 4, .int "l2" 4, .bytes "uuid_le:root_key_identifier",
   .lenOf "key_info" 4, .lenOf "utf16z:domain_name" 4, .lenOf "utf16z:forest_name" 4,
   .bytes "key_info", .bytes "utf16z:domain_name", .bytes "utf16z:forest_name"]

def keyIdEnv (k : KeyId) : Env where
  ints f := if f = "version" then k.version else if f = "flags" then k.flags else if f = "l0" then k.l0 else if f = "l1" then k.l1
    else if f = "l2" then k.l2 else 0
  bytes f := if f = "magic" then .ok kdsk else if f = "uuid_le:root_key_identifier" then .ok k.rootKeyId
    else if f = "key_info" then .ok k.keyInfo
    else if f = "utf16z:domain_name" then .ok (k.domainName ++ [0, 0]) else if f = "utf16z:forest_name" then .ok (k.forestName ++ [0, 0])
    else .error .keyError

theorem keyIdPack_eq_layout (k : KeyId) : keyIdPack k = Layout.pack (keyIdEnv k) keyIdLayout := by
  simp only [keyIdPack, keyIdLayout, keyIdEnv, u32, interp, except_nf]

def kdfParamsLayout : List Item := [.const [0, 0, 0, 0, 1, 0, 0, 0], .lenOf "utf16z:hash_name" 4, .const [0, 0, 0, 0], .bytes "utf16z:hash_name"]
def kdfParamsEnv (hashName : Bytes) : Env where
  ints _ := 0
  bytes f := if f = "utf16z:hash_name" then .ok (hashName ++ [0, 0]) else .error .keyError
theorem kdfParamsPack_eq_layout (hn : Bytes) : kdfParamsPack hn = Layout.pack (kdfParamsEnv hn) kdfParamsLayout := by
  simp only [kdfParamsPack, kdfParamsLayout, kdfParamsEnv, u32, interp, except_nf]

def ffcKeyLayout : List Item :=
  [.bytes "magic", .int "key_length" 4, .bytes "be:field_order:key_length", .bytes "be:generator:key_length", .bytes "be:public_key:key_length"]
def ffcKeyEnv (k : FfcKey) : Env where
  ints f := if f = "key_length" then k.keyLength else 0
  bytes f := if f = "magic" then .ok dhpb else if f = "be:field_order:key_length" then Py.toBytesBE k.fieldOrder k.keyLength
    else if f = "be:generator:key_length" then Py.toBytesBE k.generator k.keyLength
    else if f = "be:public_key:key_length" then Py.toBytesBE k.publicKey k.keyLength else .error .keyError
/-- the model converts the three big-endian integers before the length, the layout after it: the two orders can only differ
    in which conversion reports the overflow, and each of them reports `OverflowError` -/
theorem ffcKeyPack_eq_layout (k : FfcKey) : ffcKeyPack k = Layout.pack (ffcKeyEnv k) ffcKeyLayout := by
  simp only [ffcKeyPack, ffcKeyLayout, ffcKeyEnv, u32, interp, except_nf]
  rcases Py.toBytesBE_cases k.fieldOrder k.keyLength with ⟨_, h1⟩ | h1 <;> rcases Py.toBytesBE_cases k.generator k.keyLength with ⟨_, h2⟩ | h2 <;>
    rcases Py.toBytesBE_cases k.publicKey k.keyLength with ⟨_, h3⟩ | h3 <;> rcases Py.toBytesLE_cases k.keyLength 4 with ⟨_, h4⟩ | h4 <;>
    simp only [h1, h2, h3, h4, except_nf]

end Gkdi

namespace Rpc

def headerLayout : List Item :=
  [.int "version" 1, .int "version_minor" 1, .int "packet_type" 1, .int "packet_flags" 1, .bytes "pack:data_rep",
   .int "frag_len" 2, .int "auth_len" 2, .int "call_id" 4]

def headerEnv (h : Header) : Env where
  ints f := if f = "version" then h.version else if f = "version_minor" then h.versionMinor else if f = "packet_type" then h.packetType
    else if f = "packet_flags" then h.packetFlags else if f = "frag_len" then h.fragLen else if f = "auth_len" then h.authLen
    else if f = "call_id" then h.callId else 0
  bytes f := if f = "pack:data_rep" then dataRepPack h.dataRep else .error .keyError

theorem headerPack_eq_layout (h : Header) : headerPack h = Layout.pack (headerEnv h) headerLayout := by
  simp only [headerPack, headerLayout, headerEnv, le, interp, except_nf]

def secTrailerLayout : List Item :=
  [.int "type" 1, .int "level" 1, .int "pad_length" 1, .const [0], .int "context_id" 4, .bytes "auth_value"]

def secTrailerEnv (t : SecTrailer) : Env where
  ints f := if f = "type" then t.type else if f = "level" then t.level else if f = "pad_length" then t.padLength
    else if f = "context_id" then t.contextId else 0
  bytes f := if f = "auth_value" then .ok t.authValue else .error .keyError

theorem secTrailerPack_eq_layout (t : SecTrailer) : secTrailerPack t = Layout.pack (secTrailerEnv t) secTrailerLayout := by
  simp only [secTrailerPack, secTrailerLayout, secTrailerEnv, le, interp, except_nf]

def requestLayout : List Item :=
  [.bytes "pack:header", .int "alloc_hint" 4, .int "context_id" 2, .int "opnum" 2, .bytes "opt_uuid_le:obj", .bytes "stub_data",
   .bytes "optpack:sec_trailer"]
def responseLayout : List Item :=
  [.bytes "pack:header", .int "alloc_hint" 4, .int "context_id" 2, .int "cancel_count" 1, .const [0], .bytes "stub_data",
   .bytes "optpack:sec_trailer"]
def faultLayout : List Item :=
  [.bytes "pack:header", .int "alloc_hint" 4, .int "context_id" 2, .int "cancel_count" 1, .int "flags" 1, .int "status" 4,
   .const [0, 0, 0, 0], .bytes "stub_data", .bytes "optpack:sec_trailer"]

/-- the environment of a request / response / fault PDU -/
def pduEnv (h : Header) (t : Option SecTrailer) (allocHint contextId opnum cancelCount flags status : Nat) (obj : Option Bytes) (stub : Bytes) : Env where
  ints f := if f = "alloc_hint" then allocHint else if f = "context_id" then contextId else if f = "opnum" then opnum
    else if f = "cancel_count" then cancelCount else if f = "flags" then flags else if f = "status" then status else 0
  bytes f := if f = "pack:header" then headerPack h else if f = "opt_uuid_le:obj" then .ok (obj.getD [])
    else if f = "stub_data" then .ok stub else if f = "optpack:sec_trailer" then optTrailerPack t else .error .keyError

theorem requestPack_eq_layout (h : Header) (t : Option SecTrailer) (ah cid op : Nat) (obj : Option Bytes) (stub : Bytes) :
    pduPack ⟨h, t, .request ah cid op obj stub⟩ = Layout.pack (pduEnv h t ah cid op 0 0 0 obj stub) requestLayout := by
  simp only [pduPack, requestLayout, pduEnv, le, interp, except_nf]

theorem responsePack_eq_layout (h : Header) (t : Option SecTrailer) (ah cid cc : Nat) (stub : Bytes) :
    pduPack ⟨h, t, .response ah cid cc stub⟩ = Layout.pack (pduEnv h t ah cid 0 cc 0 0 none stub) responseLayout := by
  simp only [pduPack, responseLayout, pduEnv, le, interp, except_nf]

theorem faultPack_eq_layout (h : Header) (t : Option SecTrailer) (ah cid cc status flags : Nat) (stub : Bytes) :
    pduPack ⟨h, t, .fault ah cid cc status flags stub⟩ = Layout.pack (pduEnv h t ah cid 0 cc flags status none stub) faultLayout := by
  simp only [pduPack, faultLayout, pduEnv, le, interp, except_nf]

def syntaxLayout : List Item := [.bytes "uuid_le:uuid", .int "version" 2, .int "version_minor" 2]
def syntaxEnv (s : SyntaxId) : Env where
  ints f := if f = "version" then s.version else if f = "version_minor" then s.versionMinor else 0
  bytes f := if f = "uuid_le:uuid" then .ok s.uuid else .error .keyError
theorem syntaxPack_eq_layout (s : SyntaxId) : syntaxPack s = Layout.pack (syntaxEnv s) syntaxLayout := by
  simp only [syntaxPack, syntaxLayout, syntaxEnv, le, interp, except_nf]

def resultLayout : List Item := [.int "result" 2, .int "reason" 2, .bytes "uuid_le:syntax", .int "syntax_version" 4]
def resultEnv (r : ContextResult) : Env where
  ints f := if f = "result" then r.result else if f = "reason" then r.reason else if f = "syntax_version" then r.syntaxVersion else 0
  bytes f := if f = "uuid_le:syntax" then .ok r.syntaxUuid else .error .keyError
theorem resultPack_eq_layout (r : ContextResult) : resultPack r = Layout.pack (resultEnv r) resultLayout := by
  simp only [resultPack, resultLayout, resultEnv, le, interp, except_nf]
/-! presentation contexts, bind / alter-context bodies, the verification trailer and its commands.
    `packs:x` is `b"".join(e.pack() for e in self.x)`, `.countOf "x"` is `len(self.x)` of a list-valued field,
    `a.value|b.value` is the integer `self.a.value | self.b.value`. -/

/-- `b"".join([x.pack() for x in xs])` -/
def packs {α : Type} (f : α → R Bytes) (xs : List α) : R Bytes := do
  let l ← xs.mapM f
  pure l.flatten

def contextLayout : List Item :=
  [.int "context_id" 2, .countOf "transfer_syntaxes" 2, .bytes "pack:abstract_syntax", .bytes "packs:transfer_syntaxes"]
def contextEnv (c : ContextElement) : Env where
  ints f := if f = "context_id" then c.contextId else 0
  bytes f := if f = "pack:abstract_syntax" then syntaxPack c.abstractSyntax
    else if f = "packs:transfer_syntaxes" then packs syntaxPack c.transferSyntaxes else .error .keyError
  counts f := if f = "transfer_syntaxes" then c.transferSyntaxes.length else 0

theorem contextPack_eq_layout (c : ContextElement) : contextPack c = Layout.pack (contextEnv c) contextLayout := by
  simp only [contextPack, contextLayout, contextEnv, le, packs, interp, except_nf]

def bindLayout : List Item :=
  [.bytes "pack:header", .int "max_xmit_frag" 2, .int "max_recv_frag" 2, .int "assoc_group" 4, .countOf "contexts" 4,
   .bytes "packs:contexts", .bytes "optpack:sec_trailer"]
def bindEnv (h : Header) (t : Option SecTrailer) (mx mr ag : Nat) (ctxs : List ContextElement) : Env where
  ints f := if f = "max_xmit_frag" then mx else if f = "max_recv_frag" then mr else if f = "assoc_group" then ag else 0
  bytes f := if f = "pack:header" then headerPack h else if f = "packs:contexts" then packs contextPack ctxs
    else if f = "optpack:sec_trailer" then optTrailerPack t else .error .keyError
  counts f := if f = "contexts" then ctxs.length else 0

theorem bindPack_eq_layout (h : Header) (t : Option SecTrailer) (alter : Bool) (mx mr ag : Nat) (ctxs : List ContextElement) :
    pduPack ⟨h, t, .bind alter mx mr ag ctxs⟩ = Layout.pack (bindEnv h t mx mr ag ctxs) bindLayout := by
  simp only [pduPack, bindLayout, bindEnv, le, packs, interp, except_nf]

def commandLayout : List Item := [.int "command.value|flags.value" 2, .lenOf "value" 2, .bytes "value"]
/-- `Command(self.command, self.flags, value)`: the value is already bytes when `Command.pack` runs -/
def commandEnv (command flags : Nat) (value : Bytes) : Env where
  ints f := if f = "command.value|flags.value" then command ||| flags else 0
  bytes f := if f = "value" then .ok value else .error .keyError

theorem commandPack_eq_layout (c : Command) :
    commandPack c = (cmdValuePack c).bind fun v => Layout.pack (commandEnv c.command c.flags v) commandLayout := by
  simp only [commandPack, commandLayout, commandEnv, le, interp, except_nf]

def vtLayout : List Item := [.bytes "signature", .bytes "packs:commands"]
def vtEnv (cmds : List Command) : Env where
  ints _ := 0
  bytes f := if f = "signature" then .ok vtSignature else if f = "packs:commands" then packs commandPack cmds else .error .keyError

theorem vtPack_eq_layout (cmds : List Command) : vtPack cmds = Layout.pack (vtEnv cmds) vtLayout := by
  simp only [vtPack, vtLayout, vtEnv, packs, interp, except_nf]

/-! the `value` of the three known verification commands -/
def bitmaskValueLayout : List Item := [.int "bits" 4]
def pcontextValueLayout : List Item := [.bytes "pack:interface_id", .bytes "pack:transfer_syntax"]
def header2ValueLayout : List Item :=
  [.int "packet_type" 1, .const [0, 0, 0], .bytes "pack:data_rep", .int "call_id" 4, .int "context_id" 2, .int "opnum" 2]

def bitmaskEnv (bits : Nat) : Env where
  ints f := if f = "bits" then bits else 0
  bytes _ := .error .keyError
def pcontextEnv (i t : SyntaxId) : Env where
  ints _ := 0
  bytes f := if f = "pack:interface_id" then syntaxPack i else if f = "pack:transfer_syntax" then syntaxPack t else .error .keyError
def header2Env (pt : Nat) (dr : DataRep) (callId cid op : Nat) : Env where
  ints f := if f = "packet_type" then pt else if f = "call_id" then callId else if f = "context_id" then cid
    else if f = "opnum" then op else 0
  bytes f := if f = "pack:data_rep" then dataRepPack dr else .error .keyError

theorem bitmaskValue_eq_layout (ct fl bits : Nat) :
    cmdValuePack ⟨ct, fl, .bitmask bits⟩ = Layout.pack (bitmaskEnv bits) bitmaskValueLayout := by
  simp only [cmdValuePack, bitmaskValueLayout, bitmaskEnv, le, interp, except_nf]

theorem pcontextValue_eq_layout (ct fl : Nat) (i t : SyntaxId) :
    cmdValuePack ⟨ct, fl, .pcontext i t⟩ = Layout.pack (pcontextEnv i t) pcontextValueLayout := by
  simp only [cmdValuePack, pcontextValueLayout, pcontextEnv, interp, except_nf]

theorem header2Value_eq_layout (ct fl pt : Nat) (dr : DataRep) (callId cid op : Nat) :
    cmdValuePack ⟨ct, fl, .header2 pt dr callId cid op⟩ = Layout.pack (header2Env pt dr callId cid op) header2ValueLayout := by
  simp only [cmdValuePack, header2ValueLayout, header2Env, le, interp, except_nf]

def bindAckLayout : List Item :=
  [.bytes "pack:header", .int "max_xmit_frag" 2, .int "max_recv_frag" 2, .int "assoc_group" 4, .lenOf "cstr:sec_addr" 2,
   .bytes "cstr:sec_addr", .zerosNegMod 2 "cstr:sec_addr" 4, .countOf "results" 4, .bytes "packs:results", .bytes "optpack:sec_trailer"]
/-- `cstr:x` is `self.x.encode("utf-8") + b"\0"` when `self.x` is non-empty, `b""` otherwise -/
def bindAckEnv (h : Header) (t : Option SecTrailer) (mx mr ag : Nat) (sa : Bytes) (results : List ContextResult) : Env where
  ints f := if f = "max_xmit_frag" then mx else if f = "max_recv_frag" then mr else if f = "assoc_group" then ag else 0
  bytes f := if f = "pack:header" then headerPack h else if f = "cstr:sec_addr" then .ok (if sa = [] then [] else sa ++ [0])
    else if f = "packs:results" then packs resultPack results else if f = "optpack:sec_trailer" then optTrailerPack t else .error .keyError
  counts f := if f = "results" then results.length else 0

theorem bindAckPack_eq_layout (h : Header) (t : Option SecTrailer) (alter : Bool) (mx mr ag : Nat) (sa : Bytes) (results : List ContextResult) :
    pduPack ⟨h, t, .bindAck alter mx mr ag sa results⟩ = Layout.pack (bindAckEnv h t mx mr ag sa results) bindAckLayout := by
  simp only [pduPack, bindAckLayout, bindAckEnv, le, packs, interp, except_nf]

/-- `a<<k|b` is the integer `self.a << k | self.b` -/
def dataRepLayout : List Item := [.int "byte_order<<4|character" 1, .int "floating_point" 1, .const [0, 0]]
def dataRepEnv (d : DataRep) : Env where
  ints f := if f = "byte_order<<4|character" then d.byteOrder <<< 4 ||| d.character else if f = "floating_point" then d.floatingPoint else 0
  bytes _ := .error .keyError

theorem dataRepPack_eq_layout (d : DataRep) : dataRepPack d = Layout.pack (dataRepEnv d) dataRepLayout := by
  simp only [dataRepPack, dataRepLayout, dataRepEnv, le, interp, except_nf, Nat.shiftLeft_eq, Nat.reducePow]

end Rpc

namespace SecDesc

/-- `ace_to_bytes(sid, access_mask)`: `call:sid_to_bytes:sid` is the local `b_sid = sid_to_bytes(sid)` -/
def aceLayout : List Item :=
  [.const [0, 0], .lenPlus 8 "call:sid_to_bytes:sid" 2, .int "access_mask" 4, .bytes "call:sid_to_bytes:sid"]

def aceEnv (sid : Bytes) (mask : Nat) : Env where
  ints f := if f = "access_mask" then mask else 0
  bytes f := if f = "call:sid_to_bytes:sid" then .ok sid else .error .keyError

theorem aceBytes_eq_layout (sid : Bytes) (mask : Nat) (hs : 8 + sid.length < 65536) (hm : mask < 2 ^ 32) :
    Layout.pack (aceEnv sid mask) aceLayout = .ok (aceBytes sid mask) := by
  have h1 : (8 + sid.length) < 256 ^ 2 := by simpa using hs
  have h2 : mask < 256 ^ 4 := by simpa using hm
  simp only [aceLayout, aceBytes, aceEnv, interp, except_nf, Py.toBytesLE_ok _ _ h1, Py.toBytesLE_ok _ _ h2]

/-- `acl_to_bytes(aces)`: `join:aces` is the local `ace_data = b"".join(aces)`, `count:aces` is `len(aces)` -/
def aclLayout : List Item :=
  [.const [2, 0], .lenPlus 8 "join:aces" 2, .int "count:aces" 2, .const [0, 0], .bytes "join:aces"]

def aclEnv (aces : List Bytes) : Env where
  ints f := if f = "count:aces" then aces.length else 0
  bytes f := if f = "join:aces" then .ok aces.flatten else .error .keyError

theorem aclBytes_eq_layout (aces : List Bytes) (hs : 8 + aces.flatten.length < 65536) (hn : aces.length < 65536) :
    Layout.pack (aclEnv aces) aclLayout = .ok (aclBytes aces) := by
  have h1 : (8 + aces.flatten.length) < 256 ^ 2 := by simpa using hs
  have h2 : aces.length < 256 ^ 2 := by simpa using hn
  simp only [aclLayout, aclBytes, aclEnv, interp, except_nf, Py.toBytesLE_ok _ _ h1, Py.toBytesLE_ok _ _ h2]

end SecDesc

end DpapiNg
