/-
  Python's clamped slices on natural indices, and the `wire` simp set.  `simp only [wire, <length facts>, <bounds>]` reads
  the fields out of a right-nested concatenation `f₁ ++ (f₂ ++ …)`, skipping one part of known length per step.  The side
  conditions are comparisons of lengths, closed from `toLE_length` and the length facts named in the call, and the bounds
  `n < 256 ^ k` of integer fields, closed from the hypotheses named in the call.  The discharger does no arithmetic: a bound
  must be written as the encoder writes the term (`12 + n + n < 2 ^ 32`, not `2 * n + 12 < …`).
  A codec lemma `∃ b, pack x = .ok b ∧ b.length = k ∧ ∀ rest, unpack (b ++ rest) = .ok x` goes in three steps:
  `simp only [pack, wire, except_nf, <bounds>]` turns the first conjunct into `.ok _ = .ok b`;
  `refine ⟨_, rfl, by simp only [wire]; omega, fun rest => ?_⟩`; then `simp only [unpack, wire, except_nf, <bounds>]`.
  The set works on `sliceN` (`(xs.take j).drop i`, by `rfl`), `drop`, `take` and `index`.  Python's `xs[a:b]` with `Int`
  bounds is brought there first: `slice_lit` / `sliceFrom_lit` / `sliceTo_lit` for bounds that are numerals or casts (the
  `Nat` values are given, the two equations close by `rfl` or `omega`), `sliceFrom_neg` / `sliceTo_neg` for `xs[-|b|:]`.
-/
import DpapiNg.Proofs.PyLemmas
import DpapiNg.Proofs.Norm
namespace DpapiNg.Py

attribute [wire] List.append_assoc List.append_nil List.length_append List.length_cons List.length_nil toLE_length toBE_length
  zeros_length List.drop_zero List.drop_left List.take_zero List.take_left List.take_length List.take_of_length_le
  Nat.le_refl Nat.sub_self Nat.add_sub_cancel_left Nat.add_sub_cancel fromLE_toLE fromBE_toBE toBytesLE_ok toBytesBE_ok
-- `simp only` runs no simproc unless it is named: comparisons and differences of literal offsets
attribute [wire_proc] Nat.reduceLeDiff Nat.reduceLT Nat.reduceSub Nat.reduceAdd
-- a decoder's `if` is decided before its branches are visited, so that the dead branch is not walked
attribute [wire_proc ↓] reduceIte

@[wire] theorem drop_skip {α} {a r : List α} {i : Nat} (h : a.length ≤ i) : (a ++ r).drop i = r.drop (i - a.length) := by
  rw [List.drop_append, List.drop_eq_nil_of_le h, List.nil_append]

@[wire] theorem sliceN_skip {α} {a r : List α} {i j : Nat} (h : a.length ≤ i) :
    sliceN (a ++ r) i j = sliceN r (i - a.length) (j - a.length) := by
  rw [sliceN, sliceN, List.drop_take, List.drop_take, drop_skip h, Nat.sub_sub_sub_cancel_right h]

@[wire] theorem sliceN_within {α} {a r : List α} {i j : Nat} (h : j ≤ a.length) : sliceN (a ++ r) i j = sliceN a i j := by
  simp only [sliceN, List.take_append_of_le_length h]

@[wire] theorem sliceN_all {α} {a : List α} {j : Nat} (h : a.length ≤ j) : sliceN a 0 j = a := by
  simp only [sliceN, List.drop_zero, List.take_of_length_le h]

/-- for a read that spans several parts: name it in the call, then `take_skip` collects them -/
theorem sliceN_zero {α} (l : List α) (j : Nat) : sliceN l 0 j = l.take j := by
  rw [sliceN, List.drop_zero]

/-- offsets that are sums are walked summand by summand, in the order the encoder appended the parts (tried before
    `drop_skip` / `sliceN_skip`, which would leave a difference of sums) -/
@[wire high] theorem drop_add {α} (l : List α) (i j : Nat) : l.drop (i + j) = (l.drop i).drop j := by rw [List.drop_drop]

@[wire high] theorem sliceN_add {α} (l : List α) (i k : Nat) : sliceN l i (i + k) = (l.drop i).take k := by
  rw [sliceN, List.drop_take, Nat.add_sub_cancel_left]

theorem sliceN_empty {α} (l : List α) {i j : Nat} (h : j ≤ i) : sliceN l i j = [] := by
  rw [sliceN, List.drop_take, Nat.sub_eq_zero_of_le h, List.take_zero]

@[wire] theorem take_skip {α} {a r : List α} {i : Nat} (h : a.length ≤ i) : (a ++ r).take i = a ++ r.take (i - a.length) := by
  rw [List.take_append, List.take_of_length_le h]

@[wire] theorem index_skip {α} {a r : List α} {i : Nat} (h : a.length ≤ i) : index (a ++ r) i = index r (i - a.length) := by
  simp only [index, List.getElem?_append_right h]

@[wire] theorem index_within {α} {a r : List α} {i : Nat} (h : i < a.length) : index (a ++ r) i = index a i := by
  simp only [index, List.getElem?_append_left h]

@[wire] theorem index_head {α} (x : α) (r : List α) : index (x :: r) 0 = .ok x := id rfl

@[wire] theorem index_succ {α} (x : α) (r : List α) (i : Nat) : index (x :: r) (i + 1) = index r i := id rfl

@[wire] theorem index_toLE {n k : Nat} (h : n < 256) : index (toLE n (k + 1)) 0 = .ok n := by
  simp only [toLE, index_head, Nat.mod_eq_of_lt h]

@[wire] theorem toLE_one {n : Nat} (h : n < 256) : toLE n 1 = [n] := by
  simp only [toLE, Nat.mod_eq_of_lt h]

theorem clampIdx_nat (n i : Nat) : clampIdx n (i : Int) = min i n := by
  unfold clampIdx
  have : ¬ ((i : Int) < 0) := by omega
  simp [this]

/-- dropping is the same up to the length of the list (as core's `List.take_eq_take_min` for `take`) -/
theorem drop_min {α} (xs : List α) (i : Nat) : xs.drop (min i xs.length) = xs.drop i := by
  rcases Nat.le_total i xs.length with h | h
  · rw [Nat.min_eq_left h]
  · rw [Nat.min_eq_right h, List.drop_length, List.drop_eq_nil_of_le h]

theorem slice_nat {α} (xs : List α) (i j : Nat) : slice xs (i : Int) (j : Int) = sliceN xs i j := by
  rw [slice, sliceN, clampIdx_nat, clampIdx_nat, ← List.take_eq_take_min]
  rcases Nat.le_total i xs.length with h | h
  · rw [Nat.min_eq_left h]
  · rw [Nat.min_eq_right h, List.drop_eq_nil_of_le (List.length_take_le' ..),
      List.drop_eq_nil_of_le (Nat.le_trans (List.length_take_le' ..) h)]

theorem sliceFrom_nat {α} (xs : List α) (i : Nat) : sliceFrom xs (i : Int) = xs.drop i := by
  rw [sliceFrom, clampIdx_nat, drop_min]

theorem sliceTo_nat {α} (xs : List α) (j : Nat) : sliceTo xs (j : Int) = xs.take j := by
  rw [sliceTo, clampIdx_nat, ← List.take_eq_take_min]

theorem slice_lit {α} (xs : List α) (a b : Int) (i j : Nat) (ha : a = (i : Int)) (hb : b = (j : Int)) :
    slice xs a b = sliceN xs i j := by subst ha; subst hb; exact slice_nat xs i j
theorem sliceFrom_lit {α} (xs : List α) (a : Int) (i : Nat) (ha : a = (i : Int)) : sliceFrom xs a = xs.drop i := by
  subst ha; exact sliceFrom_nat xs i
theorem sliceTo_lit {α} (xs : List α) (b : Int) (j : Nat) (hb : b = (j : Int)) : sliceTo xs b = xs.take j := by
  subst hb; exact sliceTo_nat xs j

theorem clampIdx_neg {α} (a b : List α) (hb : 0 < b.length) : clampIdx (a ++ b).length (-(b.length : Int)) = a.length := by
  have h0 : (-(b.length : Int)) < 0 := by omega
  simp only [clampIdx, h0, if_true, List.length_append]; omega

/-- `xs[m:]` and `xs[:m]` for `m = -|b|` split off the suffix `b` -/
theorem sliceFrom_neg {α} (a b : List α) (m : Int) (hm : m = -(b.length : Int)) (hb : 0 < b.length) :
    sliceFrom (a ++ b) m = b := by
  rw [hm, sliceFrom, clampIdx_neg a b hb, List.drop_left]

theorem sliceTo_neg {α} (a b : List α) (m : Int) (hm : m = -(b.length : Int)) (hb : 0 < b.length) :
    sliceTo (a ++ b) m = a := by
  rw [hm, sliceTo, clampIdx_neg a b hb, List.take_left]

end DpapiNg.Py
