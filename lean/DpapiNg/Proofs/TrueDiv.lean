/-
  Exactness of CPython's `int(a / b)` when the quotient is short and the divisor is small
  relative to the spare mantissa bits (used for the L1 / L2 index kernels, which the
  repository computes through a float quotient).
-/
import DpapiNg.Model.Py
namespace DpapiNg.Py

theorem round_trunc_exact (a b sh : Nat) (hb : 0 < b) (hsmall : b < 2 ^ (sh + 1)) (up : Bool)
    (hup : up = true → b ≤ 2 * ((a * 2 ^ sh) % b)) :
    ((a * 2 ^ sh) / b + (if up then 1 else 0)) / 2 ^ sh = a / b := by
  have hS : 0 < 2 ^ sh := Nat.pow_pos (by omega)
  rw [Nat.pow_succ] at hsmall
  generalize 2 ^ sh = S at *
  -- without rounding, dividing by `S` again undoes the scaling
  have hm : a * S / b / S = a / b := by rw [Nat.div_div_eq_div_mul, Nat.mul_div_mul_right _ _ hS]
  cases up with
  | false => exact hm
  | true =>
    -- rounding up adds one to `m = a * S / b`; it stays below `(a / b + 1) * S` because
    -- `b * (m + 1) = a * S + (b - u) < a * S + S ≤ b * ((a / b + 1) * S)`, where `u = a * S % b ≥ b / 2` and `b < 2 * S`
    have h2u := hup rfl
    have hdm : b * (a * S / b) + a * S % b = a * S := Nat.div_add_mod ..
    have ha : (a + 1) * S ≤ b * (a / b + 1) * S := Nat.mul_le_mul_right S (Nat.lt_mul_div_succ a hb)
    rw [Nat.add_mul, Nat.one_mul, Nat.mul_assoc] at ha
    have hlt : b * (a * S / b + 1) < b * ((a / b + 1) * S) := by rw [Nat.mul_add, Nat.mul_one]; omega
    refine Nat.div_eq_of_lt_le ?_ (Nat.lt_of_mul_lt_mul_left hlt)
    have := Nat.div_mul_le_self (a * S / b) S
    rw [hm] at this; omega

/-- `int(a / b)` is exact whenever the quotient has at most 53 bits and the divisor is below 2 to the number of spare
    mantissa bits plus one. -/
theorem trueDivTrunc_exact (a b : Nat) (hb : 0 < b) (hbits : Nat.log2 (max (a / b) 1) + 1 ≤ 53)
    (hsmall : b < 2 ^ (53 - (Nat.log2 (max (a / b) 1) + 1) + 1)) : trueDivTrunc a b = a / b := by
  unfold trueDivTrunc
  by_cases ha : a = 0
  · simp [ha]
  · simp only [ha, if_false]
    generalize Nat.log2 (max (a / b) 1) + 1 = bits at hbits hsmall
    simp only [show ¬ bits ≥ 54 by omega, if_false]
    generalize 53 - bits = sh at hsmall
    rw [← round_trunc_exact a b sh hb hsmall
      (decide (2 * (a * 2 ^ sh % b) > b ∨ 2 * (a * 2 ^ sh % b) = b ∧ a * 2 ^ sh / b % 2 = 1))
      (by intro h; simp only [decide_eq_true_eq] at h; omega)]
    congr 2
    by_cases hc : (2 * (a * 2 ^ sh % b) > b ∨ 2 * (a * 2 ^ sh % b) = b ∧ a * 2 ^ sh / b % 2 = 1) <;> simp [hc]

/-- With a quotient below 32 and a divisor below 2^49 the float quotient truncates exactly. -/
theorem trueDivTrunc_small (a b : Nat) (hb : 0 < b) (hb2 : b < 2 ^ 49) (hq : a / b < 32) :
    trueDivTrunc a b = a / b := by
  have : Nat.log2 (max (a / b) 1) < 5 := (Nat.log2_lt (by omega)).2 (by omega)
  exact trueDivTrunc_exact a b hb (by omega) (Nat.lt_of_lt_of_le hb2 (Nat.pow_le_pow_right (by omega) (by omega)))

end DpapiNg.Py
