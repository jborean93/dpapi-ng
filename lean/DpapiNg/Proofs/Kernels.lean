/-
  Facts that connect generated kernels (plain arithmetic conditions read off the source)
  with model functions that are not themselves arithmetic expressions.
-/
import DpapiNg.Proofs.Asn1Tlv
namespace DpapiNg.Kernels
open DpapiNg.Asn1

/-- the model takes the short form exactly below 128 -/
theorem shortForm_iff (n : Nat) : (lengthOctets n = [n]) ↔ n < 128 := by
  refine ⟨fun e => Nat.lt_of_not_le fun h => ?_, lengthOctets_short⟩
  have := congrArg List.length (lengthOctets_long h ▸ e)
  have hp := minLE_pos n (by omega)
  simp only [List.length_cons, List.length_reverse, List.length_nil] at this
  omega

end DpapiNg.Kernels
