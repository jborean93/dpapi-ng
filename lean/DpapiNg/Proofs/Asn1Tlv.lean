/-
  The pieces of a TLV header, each read back from what the writer emits with exact consumption: base-128 numbers,
  length octets (short and long form), identifier octets of every well-formed tag.
-/
import DpapiNg.Model.Asn1
import DpapiNg.Proofs.Norm
namespace DpapiNg.Asn1

/-- the digits, folded most significant first as the reader does, give `n` back -/
theorem b128LE_spec (n : Nat) :
    (b128LE n).foldr (fun d a => a * 128 + d) 0 = n ∧ (∀ d ∈ b128LE n, d < 128) ∧ (0 < n → b128LE n ≠ []) := by
  fun_induction b128LE n with
  | case1 => exact ⟨rfl, nofun, fun h => absurd h (Nat.lt_irrefl 0)⟩
  | case2 n h ih =>
    exact ⟨by simp only [List.foldr_cons, ih.1]; omega, List.forall_mem_cons.mpr ⟨by omega, ih.2.1⟩, fun _ => List.cons_ne_nil _ _⟩

/-- octets with the continuation bit set are folded into the accumulator -/
theorem unpackAux_cont (ds : List Nat) (hds : ∀ d ∈ ds, d < 128) (tail : Bytes) (acc idx : Nat) :
    unpackOctetNumberAux (ds.map (· + 128) ++ tail) acc idx
      = unpackOctetNumberAux tail (ds.foldl (fun a d => a * 128 + d) acc) (idx + ds.length) := by
  induction ds generalizing acc idx with
  | nil => rfl
  | cons d ds ih =>
    obtain ⟨hd, hds'⟩ := List.forall_mem_cons.mp hds
    have h1 : ¬ (d + 128) / 128 % 2 = 0 := by omega
    have h2 : (d + 128) % 128 = d := by omega
    simp only [List.map_cons, List.cons_append, unpackOctetNumberAux, h1, h2, if_false, ih hds', List.foldl_cons, List.length_cons,
      Nat.add_assoc, Nat.add_comm 1]

theorem unpack_pack_octetNumber (n : Nat) (hn : 0 < n) (rest : Bytes) :
    unpackOctetNumber (packOctetNumber n ++ rest) = .ok (n, (packOctetNumber n).length) := by
  obtain ⟨hv, hd, hne⟩ := b128LE_spec n
  unfold unpackOctetNumber packOctetNumber
  match hb : b128LE n, hne hn with
  | d0 :: ds, _ =>
    obtain ⟨hd0, hds⟩ := List.forall_mem_cons.mp (hb ▸ hd)
    rw [hb, List.foldr_cons] at hv
    have h1 : d0 / 128 % 2 = 0 := by omega
    have h2 : d0 % 128 = d0 := by omega
    simp only [contLE, List.reverse_cons, ← List.map_reverse, List.append_assoc, List.singleton_append,
      unpackAux_cont _ (fun d h => hds d (List.mem_reverse.mp h)), List.foldl_reverse, unpackOctetNumberAux, h1, h2, if_true, hv,
      List.length_append, List.length_map, List.length_singleton, Nat.zero_add]

theorem minLE_spec (n : Nat) : Py.fromLE (minLE n) = n ∧ IsBytes (minLE n) := by
  fun_induction minLE n with
  | case1 => exact ⟨rfl, nofun⟩
  | case2 n h ih => exact ⟨by simp only [Py.fromLE, ih.1]; omega, List.forall_mem_cons.mpr ⟨by omega, ih.2⟩⟩

theorem minLE_length_le (k n : Nat) (h : n < 256 ^ k) : (minLE n).length ≤ k := by
  fun_induction minLE n generalizing k with
  | case1 => exact Nat.zero_le k
  | case2 n hn ih =>
    match k with
    | 0 => omega
    | k + 1 => exact Nat.succ_le_succ (ih k (by rw [Nat.pow_succ] at h; omega))

theorem minLE_ne_nil (n : Nat) (h : 0 < n) : minLE n ≠ [] := by
  rw [minLE, if_neg (by omega)]; exact List.cons_ne_nil _ _

/-- the most significant digit is not zero: the loop stops when nothing is left -/
theorem minLE_getLast_ne_zero (n : Nat) (h : 0 < n) : (minLE n).getLast? ≠ some 0 := by
  fun_induction minLE n with
  | case1 => omega
  | case2 n hn ih =>
    by_cases h2 : n / 256 = 0
    · rw [h2, minLE, if_pos rfl, List.getLast?_singleton, ne_eq, Option.some.injEq]; omega
    · rw [List.getLast?_cons_of_ne_nil (minLE_ne_nil _ (by omega))]; exact ih (by omega)

theorem minLE_pos (n : Nat) (h : 0 < n) : 0 < (minLE n).length := List.length_pos_iff.mpr (minLE_ne_nil n h)

/-- the length loop is a left fold over the octets it is given -/
theorem readLenOctets_append (xs tail : Bytes) (acc : Nat) :
    readLenOctets xs.length (xs ++ tail) acc = .ok (xs.foldl (fun a x => a * 256 + x) acc) := by
  induction xs generalizing acc with
  | nil => rfl
  | cons x xs ih => exact ih _

/-- big-endian: most significant first, by Horner's rule -/
theorem fromBE_eq_foldl (b : Bytes) : Py.fromBE b = b.foldl (fun a x => a * 256 + x) 0 := by
  rw [← b.reverse_reverse, List.foldl_reverse, Py.fromBE, List.reverse_reverse]
  induction b.reverse with
  | nil => rfl
  | cons d ds ih => rw [Py.fromLE, List.foldr_cons, ← ih]; omega

/-- tags the reader can return: class 0..3, universal numbers among the 37 defined ones -/
def Tag.WF (t : Tag) : Prop := t.cls ≤ 3 ∧ (t.cls = 0 → t.num ≤ 36)

instance (t : Tag) : Decidable t.WF := by unfold Tag.WF; infer_instance

theorem wf_seq : tSEQ.WF := by decide
theorem wf_set : tSET.WF := by decide
theorem wf_int : tINTEGER.WF := by decide
theorem wf_oct : tOCTET.WF := by decide
theorem wf_utf8 : tUTF8.WF := by decide
theorem wf_bool : tBOOLEAN.WF := by decide
theorem wf_c0c : (ctx 0 true).WF := by decide
theorem wf_c0p : (ctx 0 false).WF := by decide
theorem wf_c2c : (ctx 2 true).WF := by decide

end DpapiNg.Asn1
namespace DpapiNg.Blob
open DpapiNg.Asn1

theorem wf_oid : tOID.WF := by decide

/-- a content shorter than this has at most 127 length octets, the most the long form of the length can announce; every
    length hypothesis of the development has this bound (all real inputs are far below it) -/
abbrev Lim : Nat := 256 ^ 127

end DpapiNg.Blob
namespace DpapiNg.Asn1
open DpapiNg.Blob (Lim wf_oid)

def headerLen (t : Tag) (n : Nat) : Nat := (identifierOctets t).length + (lengthOctets n).length

/-- the long form, for any octets whatever (the reader does not ask for minimality) -/
theorem readLength_long (ds tail : Bytes) (h0 : 0 < ds.length) (h : ds.length < 128) :
    readLength ((ds.length + 128) :: (ds ++ tail)) = .ok (1 + ds.length, Py.fromBE ds) := by
  rw [readLength, if_neg (by omega), if_pos (by omega), show (ds.length + 128) % 128 = ds.length by omega, readLenOctets_append,
    ← fromBE_eq_foldl, ok_bind]

theorem lengthOctets_short {n : Nat} (h : n < 128) : lengthOctets n = [n] := if_pos h
theorem lengthOctets_long {n : Nat} (h : 128 ≤ n) :
    lengthOctets n = ((minLE n).reverse.length + 128) :: (minLE n).reverse := if_neg (Nat.not_lt.mpr h)

theorem readLength_packed (n : Nat) (hn : n < Lim) (tail : Bytes) :
    readLength (lengthOctets n ++ tail) = .ok ((lengthOctets n).length, n) := by
  rcases Nat.lt_or_ge n 128 with h | h
  · rw [lengthOctets_short h, List.singleton_append, readLength, if_neg (by omega), if_neg (by omega)]; rfl
  · have hl : (minLE n).reverse.length = (minLE n).length := List.length_reverse
    rw [lengthOctets_long h, List.cons_append, readLength_long _ tail (hl ▸ minLE_pos n (by omega))
      (hl ▸ Nat.lt_succ_of_le (minLE_length_le 127 n hn)), Py.fromBE, List.reverse_reverse, (minLE_spec n).1, List.length_cons, Nat.add_comm]

/-- the three fields of an identifier octet `cls·64 + constructed·32 + k` come apart again -/
theorem idOctet_fields (cls k : Nat) (c : Bool) (hcls : cls ≤ 3) (hk : k ≤ 31) :
    (cls * 64 + (if c = true then 32 else 0) + k) / 64 % 4 = cls ∧
    ((cls * 64 + (if c = true then 32 else 0) + k) / 32 % 2 = 1 ↔ c = true) ∧
    (cls * 64 + (if c = true then 32 else 0) + k) % 32 = k := by
  cases c <;> simp only [if_true, if_false, Bool.false_eq_true, iff_false, iff_true] <;> omega

theorem readIdentifier_packed (t : Tag) (ht : t.WF) (tail : Bytes) :
    readIdentifier (identifierOctets t ++ tail) = .ok (t, (identifierOctets t).length) := by
  obtain ⟨cls, num, cons⟩ := t
  obtain ⟨hcls, huniv⟩ := ht
  have hk : ¬ (cls = 0 ∧ ¬ knownUniversal num = true) := fun ⟨h0, hk⟩ => hk (decide_eq_true (huniv h0))
  unfold identifierOctets
  by_cases hnum : num < 31
  · obtain ⟨h1, h2, h3⟩ := idOctet_fields cls num cons hcls (by omega)
    have hne : ¬ num = 31 := by omega
    simp only [hnum, if_true, List.cons_append, List.nil_append, readIdentifier, h1, h2, h3, hne, if_false, ok_bind, hk,
      List.length_singleton, Bool.decide_eq_true]
  · obtain ⟨h1, h2, h3⟩ := idOctet_fields cls 31 cons hcls (by omega)
    simp only [hnum, if_false, List.cons_append, readIdentifier, h1, h2, h3, if_true, unpack_pack_octetNumber num (by omega), ok_bind, hk,
      List.length_cons, Bool.decide_eq_true, Nat.add_comm 1]

end DpapiNg.Asn1
