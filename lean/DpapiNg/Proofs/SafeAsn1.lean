/-
  C05, ASN.1 layer: every reader of `_asn1.py` is `Safe` on every input (no IndexError /
  OverflowError / struct.error can escape).
-/
import DpapiNg.Proofs.Safe
import DpapiNg.Model.Asn1
namespace DpapiNg.Asn1
open DpapiNg

@[safe] theorem safe_unpackOctetNumberAux (b : Bytes) (acc idx : Nat) : Safe (unpackOctetNumberAux b acc idx) := by
  induction b generalizing acc idx with
  | nil => simp only [unpackOctetNumberAux, safe]
  | cons e rest ih => simp only [unpackOctetNumberAux, ih, safe]

@[safe] theorem safe_unpackOctetNumber (b : Bytes) : Safe (unpackOctetNumber b) := safe_unpackOctetNumberAux b 0 0

@[safe] theorem safe_readLenOctets (k : Nat) (b : Bytes) (acc : Nat) : Safe (readLenOctets k b acc) := by
  induction k generalizing b acc with
  | zero => simp only [readLenOctets, safe]
  | succ k ih => cases b <;> simp only [readLenOctets, ih, safe]

@[safe] theorem safe_readIdentifier (v : Bytes) : Safe (readIdentifier v) := by
  cases v <;> simp only [readIdentifier, safe]

@[safe] theorem safe_readLength (v : Bytes) : Safe (readLength v) := by
  cases v <;> simp only [readLength, safe]

@[safe] theorem safe_readHeader (v : Bytes) : Safe (readHeader v) := by
  simp only [readHeader, safe]

@[safe] theorem safe_validateTag (v : Bytes) (e : Option Tag) (t : Tag) (h : Option Header) : Safe (validateTag v e t h) := by
  cases h <;> simp only [validateTag, safe]

@[safe] theorem safe_readInteger (v : Bytes) (t : Option Tag) (h : Option Header) : Safe (readInteger v t h) := by
  simp only [readInteger, safe]

@[safe] theorem safe_readArcs (fuel : Nat) (b : Bytes) : Safe (readArcs fuel b) := by
  induction fuel generalizing b with
  | zero => cases b <;> simp only [readArcs, safe]
  | succ f ih => cases b <;> simp only [readArcs, ih, safe]

@[safe] theorem safe_readOid (v : Bytes) (t : Option Tag) (h : Option Header) : Safe (readOid v t h) := by
  simp only [readOid, safe]
  rintro ⟨_ | _, _⟩ _ <;> simp only [safe]

@[safe] theorem safe_readOctetString (v : Bytes) (t : Option Tag) (h : Option Header) : Safe (readOctetString v t h) := safe_validateTag _ _ _ _
@[safe] theorem safe_readSequence (v : Bytes) (t : Option Tag) (h : Option Header) : Safe (readSequence v t h) := safe_validateTag _ _ _ _
@[safe] theorem safe_readSet (v : Bytes) (t : Option Tag) (h : Option Header) : Safe (readSet v t h) := safe_validateTag _ _ _ _
@[safe] theorem safe_readUtf8Raw (v : Bytes) (t : Option Tag) (h : Option Header) : Safe (readUtf8Raw v t h) := safe_validateTag _ _ _ _
@[safe] theorem safe_readGenTimeRaw (v : Bytes) (t : Option Tag) (h : Option Header) : Safe (readGenTimeRaw v t h) := safe_validateTag _ _ _ _
@[safe] theorem safe_readBoolean (v : Bytes) (t : Option Tag) (h : Option Header) : Safe (readBoolean v t h) := by
  simp only [readBoolean, safe]
@[safe] theorem safe_readEnumerated (v : Bytes) (t : Option Tag) (h : Option Header) : Safe (readEnumerated v t h) := by
  unfold readEnumerated; exact safe_readInteger _ _ _

end DpapiNg.Asn1
