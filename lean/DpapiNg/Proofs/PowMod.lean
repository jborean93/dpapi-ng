/-
  `Py.powMod` (square-and-multiply, as CPython's three-argument `pow`) computes b^e mod m.
-/
import DpapiNg.Model.Py
namespace DpapiNg.Py

theorem powMod_go (m : Nat) :
    ∀ (fuel b e acc : Nat), e < fuel → powMod.go m fuel b e acc = (acc * b ^ e) % m := by
  intro fuel
  induction fuel with
  | zero => intro b e acc h; omega
  | succ fuel ih =>
    intro b e acc h
    unfold powMod.go
    by_cases he : e = 0
    · simp [he]
    · simp only [he, if_false]
      have hlt : e / 2 < fuel := by omega
      rw [ih _ _ _ hlt]
      have hb : (b * b % m) ^ (e / 2) % m = (b * b) ^ (e / 2) % m := by rw [Nat.pow_mod, Nat.mod_mod, ← Nat.pow_mod]
      have hsq : (b * b) ^ (e / 2) = b ^ (2 * (e / 2)) := by rw [Nat.pow_mul, Nat.pow_two]
      by_cases hodd : e % 2 = 1
      · simp only [hodd, if_true]
        have he2 : e = 2 * (e / 2) + 1 := by omega
        calc (acc * b % m * (b * b % m) ^ (e / 2)) % m
            = ((acc * b % m) * ((b * b % m) ^ (e / 2) % m)) % m := by rw [Nat.mul_mod, Nat.mod_mod]
          _ = ((acc * b % m) * ((b * b) ^ (e / 2) % m)) % m := by rw [hb]
          _ = ((acc * b) * (b * b) ^ (e / 2)) % m := by rw [← Nat.mul_mod]
          _ = (acc * b ^ e) % m := by
              rw [hsq, Nat.mul_assoc]
              congr 2
              conv => rhs; rw [he2]
              rw [Nat.pow_succ, Nat.mul_comm]
      · have hev : e % 2 = 0 := by omega
        have hne : ¬ (e % 2 = 1) := by omega
        simp only [hne, if_false]
        have he2 : e = 2 * (e / 2) := by omega
        calc (acc * (b * b % m) ^ (e / 2)) % m
            = (acc % m * ((b * b % m) ^ (e / 2) % m)) % m := by rw [Nat.mul_mod]
          _ = (acc % m * ((b * b) ^ (e / 2) % m)) % m := by rw [hb]
          _ = (acc * (b * b) ^ (e / 2)) % m := by rw [← Nat.mul_mod]
          _ = (acc * b ^ e) % m := by rw [hsq, ← he2]

theorem powMod_eq (b e m : Nat) (hm : 0 < m) : powMod b e m = b ^ e % m := by
  unfold powMod
  have : ¬ m = 0 := by omega
  simp only [this, if_false]
  rw [powMod_go m (e + 1) (b % m) e 1 (by omega)]
  rw [Nat.one_mul, ← Nat.pow_mod]

/-- Diffie–Hellman agreement: (g^x)^e ≡ (g^e)^x -/
theorem dh_agree (g x e p : Nat) (hp : 0 < p) :
    powMod (powMod g x p) e p = powMod (powMod g e p) x p := by
  rw [powMod_eq _ _ _ hp, powMod_eq _ _ _ hp, powMod_eq _ _ _ hp, powMod_eq _ _ _ hp]
  rw [← Nat.pow_mod, ← Nat.pow_mod, ← Nat.pow_mul, ← Nat.pow_mul, Nat.mul_comm]

theorem powMod_lt (b e m : Nat) (hm : 0 < m) : powMod b e m < m := by
  rw [powMod_eq _ _ _ hm]; exact Nat.mod_lt _ hm

end DpapiNg.Py
