/-
  The DCE/RPC codecs of `Model/Rpc.lean` read back what they wrote.  Each item (data representation, header, security
  trailer, syntax id, context result, context element) packs to bytes `b` of known length, and `b` decodes to the item
  from in front of anything; the counted lists of items follow by `counted_rt`; a whole PDU is header ‖ body ‖ optional
  security trailer (`frame_rt`).  The well-formedness predicates in which C12 states its properties are here as well.
-/
import DpapiNg.Model.Rpc
import DpapiNg.Proofs.Slices
import DpapiNg.Proofs.Counted

attribute [wire] DpapiNg.Rpc.le DpapiNg.Rpc.at_

-- the predicates carry the names under which C12 states its properties
namespace DpapiNg.C12
open DpapiNg DpapiNg.Rpc

structure _root_.DpapiNg.Rpc.Header.WF (h : Header) : Prop where
  version : h.version < 256
  versionMinor : h.versionMinor < 256
  packetType : validPacketType h.packetType = true
  packetFlags : h.packetFlags < 256
  byteOrder : h.dataRep.byteOrder ≤ 1
  character : h.dataRep.character ≤ 1
  floatingPoint : h.dataRep.floatingPoint ≤ 3
  fragLen : h.fragLen < 65536
  authLen : h.authLen < 65536
  callId : h.callId < 4294967296

def SyntaxWF (s : SyntaxId) : Prop := s.uuid.length = 16 ∧ s.version < 65536 ∧ s.versionMinor < 65536

structure _root_.DpapiNg.Rpc.ContextResult.WF (r : ContextResult) : Prop where
  result : r.result ≤ 3
  reason : r.reason < 65536
  uuid : r.syntaxUuid.length = 16
  version : r.syntaxVersion < 4294967296

structure _root_.DpapiNg.Rpc.ContextElement.WF (c : ContextElement) : Prop where
  id : c.contextId < 65536
  abs : SyntaxWF c.abstractSyntax
  ts : ∀ s ∈ c.transferSyntaxes, SyntaxWF s
  n : c.transferSyntaxes.length < 65536

/-- the security trailer of a PDU, as far as the codec is concerned -/
def TrailerWF (t : Option SecTrailer) : Prop :=
  match t with
  | none => True
  | some t => validProvider t.type = true ∧ validLevel t.level = true ∧ t.padLength < 256 ∧ t.contextId < 4294967296 ∧ 0 < t.authValue.length

def authLenOf (t : Option SecTrailer) : Nat := match t with | none => 0 | some t => t.authValue.length

end DpapiNg.C12

namespace DpapiNg.Rpc
open DpapiNg DpapiNg.C12

theorem validPacketType_lt {t : Nat} (h : validPacketType t = true) : t < 256 := by
  unfold validPacketType at h; simp at h; omega
theorem validProvider_lt {t : Nat} (h : validProvider t = true) : t < 256 := by
  unfold validProvider at h; simp at h; omega
theorem validLevel_lt {l : Nat} (h : validLevel l = true) : l < 256 := by
  unfold validLevel at h; simp at h; omega

theorem dataRepPack_unpack (d : DataRep) (h1 : d.byteOrder ≤ 1) (h2 : d.character ≤ 1) (h3 : d.floatingPoint ≤ 3) :
    ∃ b, dataRepPack d = .ok b ∧ b.length = 4 ∧ ∀ rest, dataRepUnpack (b ++ rest) = .ok d := by
  obtain ⟨bo, ch, fp⟩ := d
  simp only at h1 h2 h3
  -- the first octet: integer representation above the four bits of the character representation
  obtain ⟨hor, e1, e2⟩ : bo * 16 ||| ch = bo * 16 + ch ∧ (bo * 16 + ch) / 16 = bo ∧ (bo * 16 + ch) % 16 = ch :=
    Py.bitfields 4 (by omega) bo
  have hb : bo * 16 + ch < 256 := by omega
  have hf : fp < 256 := by omega
  refine ⟨[bo * 16 + ch] ++ ([fp] ++ [0, 0]), ?_, rfl, fun rest => ?_⟩
  · simp only [dataRepPack, hor, wire, except_nf, hb, hf]
  · simp only [dataRepUnpack, wire, except_nf, e1, e2, Nat.not_lt.mpr h1, Nat.not_lt.mpr h2, Nat.not_lt.mpr h3]

theorem headerPack_unpack (h : Header) (wf : h.WF) :
    ∃ b, headerPack h = .ok b ∧ b.length = 16 ∧ ∀ rest, headerUnpack (b ++ rest) = .ok h := by
  obtain ⟨dr, hdr, hdl, hdu⟩ := dataRepPack_unpack h.dataRep wf.byteOrder wf.character wf.floatingPoint
  simp only [headerPack, hdr, wire, except_nf, wf.version, wf.versionMinor, validPacketType_lt wf.packetType, wf.packetFlags,
    wf.fragLen, wf.authLen, wf.callId]
  refine ⟨_, rfl, by simp only [wire, hdl], fun rest => ?_⟩
  simp only [headerUnpack, wire, except_nf, hdl, of_append_nil hdu, wf.packetType, wf.fragLen, wf.authLen, wf.callId]

/-- no `rest` here: the auth value is everything after the eighth octet, so the trailer must end the view -/
theorem secTrailerPack_unpack (t : SecTrailer) (h1 : validProvider t.type = true) (h2 : validLevel t.level = true)
    (h3 : t.padLength < 256) (h4 : t.contextId < 4294967296) :
    ∃ b, secTrailerPack t = .ok b ∧ b.length = 8 + t.authValue.length ∧ secTrailerUnpack b = .ok t := by
  simp only [secTrailerPack, wire, except_nf, validProvider_lt h1, validLevel_lt h2, h3, h4]
  refine ⟨_, rfl, by simp only [wire]; omega, ?_⟩
  simp only [secTrailerUnpack, wire, except_nf, h1, h2, h4]

theorem syntaxPack_unpack (s : SyntaxId) (h : SyntaxWF s) :
    ∃ b, syntaxPack s = .ok b ∧ b.length = 20 ∧ ∀ rest, syntaxUnpack (b ++ rest) = .ok s := by
  obtain ⟨h1, h2, h3⟩ := h
  simp only [syntaxPack, wire, except_nf, h2, h3]
  refine ⟨_, rfl, by simp only [wire, h1], fun rest => ?_⟩
  simp only [syntaxUnpack, wire, except_nf, uuidOf, h1, h2, h3]

theorem syntaxes_rt (ss : List SyntaxId) (wf : ∀ s ∈ ss, SyntaxWF s) :
    ∃ bs, ss.mapM syntaxPack = .ok bs ∧ ∀ rest, syntaxesUnpack ss.length (bs.flatten ++ rest) = .ok ss :=
  counted_rt (out := fun xs _ => xs) (fun _ => rfl) fun s hs => by
    obtain ⟨b, hb, hl, hu⟩ := syntaxPack_unpack s (wf s hs)
    exact ⟨b, hb, fun n v ys w h => by simp only [syntaxesUnpack, hu v, List.drop_left' hl, h, except_nf]⟩

theorem resultPack_unpack (r : ContextResult) (wf : r.WF) :
    ∃ b, resultPack r = .ok b ∧ b.length = 24 ∧ ∀ rest, resultUnpack (b ++ rest) = .ok r := by
  have w1 : r.result < 65536 := by have := wf.result; omega
  have n1 : ¬ r.result > 3 := by have := wf.result; omega
  simp only [resultPack, wire, except_nf, w1, wf.reason, wf.version]
  refine ⟨_, rfl, by simp only [wire, wf.uuid], fun rest => ?_⟩
  simp only [resultUnpack, wire, except_nf, uuidOf, w1, wf.reason, wf.uuid, wf.version, n1]

theorem results_rt (rs : List ContextResult) (wf : ∀ r ∈ rs, r.WF) :
    ∃ bs, rs.mapM resultPack = .ok bs ∧ ∀ rest, resultsUnpack rs.length (bs.flatten ++ rest) = .ok rs :=
  counted_rt (out := fun xs _ => xs) (fun _ => rfl) fun r hr => by
    obtain ⟨b, hb, hl, hu⟩ := resultPack_unpack r (wf r hr)
    exact ⟨b, hb, fun n v ys w h => by simp only [resultsUnpack, hu v, List.drop_left' hl, h, except_nf]⟩

theorem contextPack_unpack (c : ContextElement) (wf : c.WF) :
    ∃ b, contextPack c = .ok b ∧ b.length = 24 + c.transferSyntaxes.length * 20 ∧ ∀ rest, contextUnpack (b ++ rest) = .ok c := by
  obtain ⟨ts, hts, htu⟩ := syntaxes_rt c.transferSyntaxes wf.ts
  have htl := mapM_flatten_length hts fun s hs b hb => by
    obtain ⟨_, hb', hl, -⟩ := syntaxPack_unpack s (wf.ts s hs)
    cases hb.symm.trans hb'; exact hl
  obtain ⟨sb, hsb, hsl, hsu⟩ := syntaxPack_unpack c.abstractSyntax wf.abs
  simp only [contextPack, hsb, hts, wire, except_nf, wf.id, wf.n]
  refine ⟨_, rfl, by simp only [wire, hsl, htl]; omega, fun rest => ?_⟩
  simp only [contextUnpack, wire, except_nf, hsl, wf.id, wf.n, hsu, htu]

theorem contexts_rt (cs : List ContextElement) (wf : ∀ c ∈ cs, c.WF) :
    ∃ bs, cs.mapM contextPack = .ok bs ∧ ∀ rest, contextsUnpack cs.length (bs.flatten ++ rest) = .ok cs :=
  counted_rt (out := fun xs _ => xs) (fun _ => rfl) fun c hc => by
    obtain ⟨b, hb, hl, hu⟩ := contextPack_unpack c (wf c hc)
    exact ⟨b, hb, fun n v ys w h => by simp only [contextsUnpack, hu v, List.drop_left' hl, h, except_nf]⟩

/-- The part of `PDU.unpack` common to all PDU types.  A PDU is header ‖ body ‖ optional security trailer: if `pduPack`
    lays it out so and `bodyUnpack` reads the body region back, the PDU round-trips (`BindNak._unpack` drops the trailer). -/
theorem frame_rt (h : Header) (wf : h.WF) (t : Option SecTrailer) (twf : TrailerWF t) (hal : h.authLen = authLenOf t)
    (body : Body) (bb : Bytes)
    (hp : ∀ hb tb, headerPack h = .ok hb → optTrailerPack t = .ok tb → pduPack ⟨h, t, body⟩ = .ok (hb ++ bb ++ tb))
    (hu : bodyUnpack h.packetType h.packetFlags bb = .ok body)
    (hn : ∀ r vs, body = .bindNak r vs → t = none) :
    ∃ b, pduPack ⟨h, t, body⟩ = .ok b ∧ (h.fragLen = b.length → pduUnpack b = .ok ⟨h, t, body⟩) := by
  obtain ⟨hb, hh, hl, hhu⟩ := headerPack_unpack h wf
  cases t with
  | none =>
    refine ⟨_, hp hb [] hh rfl, fun hf => ?_⟩
    have hz : h.authLen = 0 := hal
    have hf' : h.fragLen = 16 + bb.length := by rw [hf]; simp only [wire, hl]
    simp only [pduUnpack, wire, except_nf, hhu, hl, hz, hf', hu, ne_eq]
    cases body <;> rfl
  | some tr =>
    obtain ⟨w1, w2, w3, w4, w5⟩ := twf
    obtain ⟨tb, htp, htl, htu⟩ := secTrailerPack_unpack tr w1 w2 w3 w4
    refine ⟨_, hp hb tb hh htp, fun hf => ?_⟩
    have ha : h.authLen = tr.authValue.length := hal
    have hnz : h.authLen ≠ 0 := by omega
    have hf' : h.fragLen = 16 + (bb ++ tb).length := by rw [hf]; simp only [wire, hl]
    -- the trailer is found from the end: `view[-(auth_len + 8):]`
    have hm : -((h.authLen : Int) + 8) = -(tb.length : Int) := by omega
    simp only [pduUnpack, wire, except_nf, hhu, hl, hf', hnz, ne_eq,
      Py.sliceFrom_neg bb tb _ hm (by omega), Py.sliceTo_neg bb tb _ hm (by omega), htu, hu]
    cases body with
    | bindNak r vs => cases hn r vs rfl
    | _ => rfl

end DpapiNg.Rpc
