import Lean.Meta.Tactic.Simp.RegisterCommand
import Lean.Meta.Tactic.Simp.BuiltinSimprocs

/-- Rewrites a computation in `R = Except PyErr` to one right-nested chain of `>>=` over its primitive steps, ending in
    `.ok` / `.error`, with `Except.map` and `if` pushed to the leaves. -/
register_simp_attr except_nf

/-- Runs an interpreter of regenerated programs on a literal program: the interpreter's equations, lookups in its tables,
    tests on field and class names. -/
register_simp_attr interp

/-- Reads a field that sits behind a prefix of known length: walks `sliceN` / `drop` / `take` / `index` down a right-nested
    concatenation, one part per step; side conditions are comparisons of lengths, closed from the length facts in the set. -/
register_simp_attr wire

/-- Splits `Safe` of a `do` block into `Safe` of its steps (the closure rules are equivalences) and closes the leaves. -/
register_simp_attr safe

/-- Splits `Post` of a `do` block into one implication per step (the closure rules are equivalences). -/
register_simp_attr post
