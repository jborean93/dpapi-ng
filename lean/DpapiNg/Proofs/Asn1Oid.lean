/-
  OBJECT IDENTIFIER round trip: `_read_asn1_object_identifier ∘ _pack_asn1_object_identifier = id`
  for every OID with first arc ≤ 2 and second arc ≤ 39 (later arcs of any size).
-/
import DpapiNg.Proofs.Asn1Rt
namespace DpapiNg.Asn1
open DpapiNg.Blob (Lim wf_oid)

theorem arcOctets_ne_nil (n : Nat) : arcOctets n ≠ [] := by
  unfold arcOctets
  split
  · simp
  · unfold packOctetNumber
    cases hb : b128LE n with
    | nil => exact absurd hb ((b128LE_spec n).2.2 (by omega))
    | cons d ds => simp [contLE]

theorem unpack_arcOctets (n : Nat) (rest : Bytes) :
    unpackOctetNumber (arcOctets n ++ rest) = .ok (n, (arcOctets n).length) := by
  unfold arcOctets
  split
  · rename_i h; subst h
    simp [unpackOctetNumber, unpackOctetNumberAux]
  · rename_i h
    exact unpack_pack_octetNumber n (by omega) rest

/-- one turn of the arc loop on a view that is not exhausted -/
theorem readArcs_succ (fuel : Nat) {b : Bytes} (hb : b ≠ []) :
    readArcs (fuel + 1) b = unpackOctetNumber b >>= fun (n, k) => readArcs fuel (b.drop k) >>= fun rest => .ok (n :: rest) := by
  cases b with
  | nil => exact absurd rfl hb
  | cons x xs => rfl

theorem readArcs_flatten (arcs : List Nat) (fuel : Nat) (hf : ((arcs.map arcOctets).flatten).length ≤ fuel) :
    readArcs fuel ((arcs.map arcOctets).flatten) = .ok arcs := by
  induction arcs generalizing fuel with
  | nil => cases fuel <;> rfl
  | cons a as ih =>
    have hne := arcOctets_ne_nil a
    have hpos : 0 < (arcOctets a).length := List.length_pos_iff.mpr hne
    rw [List.map_cons, List.flatten_cons, List.length_append] at hf
    match fuel with
    | 0 => omega
    | fuel + 1 =>
      rw [List.map_cons, List.flatten_cons, readArcs_succ fuel (List.append_ne_nil_of_left_ne_nil hne _), unpack_arcOctets, ok_bind]
      simp only [List.drop_left, ih fuel (by omega), ok_bind]

theorem small_arc (n : Nat) (h : n < 128) : arcOctets n = [n] := by
  unfold arcOctets
  split
  · rename_i h0; rw [h0]
  · rename_i h0
    rw [packOctetNumber, b128LE, if_neg h0, show n / 128 = 0 by omega, b128LE, if_pos rfl, Nat.mod_eq_of_lt h]; rfl

/-- the content octets `_encode_object_identifier` emits -/
def oidContent (a b : Nat) (rest : List Nat) : Bytes := (40 * a + b) :: (rest.map arcOctets).flatten

theorem encodeOid_ok (a b : Nat) (rest : List Nat) (ha : a ≤ 2) (hb : b ≤ 39) :
    encodeOid (a :: b :: rest) = .ok (oidContent a b rest) := by
  unfold encodeOid
  have : ¬ (a > 39 ∨ b > 39) := by omega
  simp only [this, if_false, small_arc (40 * a + b) (by omega), oidContent, List.cons_append, List.nil_append]

theorem readOid_tlv (a b : Nat) (rest : List Nat) (hb : b ≤ 39) (tail : Bytes) (hlen : (oidContent a b rest).length < Lim) :
    readOid (tlv tOID (oidContent a b rest) ++ tail) = .ok (a :: b :: rest, (tlv tOID (oidContent a b rest)).length) := by
  unfold readOid
  rw [validateTag_tlv tOID wf_oid _ tail hlen none tOID rfl, ok_bind]
  simp only [oidContent]
  rw [readArcs_flatten rest _ (Nat.le_refl _), ok_bind]
  have e1 : (40 * a + b) / 40 = a := by omega
  have e2 : (40 * a + b) % 40 = b := by omega
  rw [e1, e2]

theorem packOid_ok (a b : Nat) (rest : List Nat) (ha : a ≤ 2) (hb : b ≤ 39) :
    packOid (a :: b :: rest) = .ok (tlv tOID (oidContent a b rest)) := by
  unfold packOid
  simp only [encodeOid_ok a b rest ha hb, ok_bind, Option.getD, packTLV_ok tOID wf_oid]

end DpapiNg.Asn1
