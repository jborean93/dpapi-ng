/-
  The MS-GKDI structures on the wire: the `wire` facts about their constants and names, the well-formedness predicates in
  which C11 states its round trips, the two round trips other modules need (FFC key: C03; key identifier: the blob), and for
  C11 the bytes of a GetKey stub and the decoder of a GetKey reply.
-/
import DpapiNg.Model.Gkdi
import DpapiNg.Proofs.Slices
namespace DpapiNg.Gkdi
open DpapiNg

attribute [wire] le32

@[wire] theorem u32_ok (n : Nat) (h : n < 2 ^ 32) : u32 n = .ok (Py.toLE n 4) := Py.toBytesLE_ok n 4 h

-- `by decide`, not `rfl`: simp files a `rfl` lemma as definitional, and its side-goal discharger then does not use it
@[wire] theorem kdsk_length : kdsk.length = 4 := by decide
@[wire] theorem dhpm_length : dhpm.length = 4 := by decide
@[wire] theorem dhpb_length : dhpb.length = 4 := by decide
@[wire] theorem curveMagic_length (c : Curve) : (curveMagic c).length = 4 := by cases c <;> decide

/-- a name is read back from in front of anything: only the announced length (name and terminator) matters -/
@[wire] theorem readName_append {name rest : Bytes} (hv : utf16Valid name = true) :
    readName (name ++ rest) (name.length + 2) = .ok name := by
  unfold readName
  rw [Py.sliceTo_lit _ _ name.length (by omega), List.take_left]; simp only [hv, if_true]

theorem readName_ok' (name rest : Bytes) (n : Nat) (hn : n = name.length + 2) (hv : utf16Valid name = true) :
    readName (name ++ 0 :: 0 :: rest) n = .ok name := hn ▸ readName_append hv

theorem ffcKey_rt (k : FfcKey) (hk : k.keyLength < 2 ^ 32) (hf : k.fieldOrder < 256 ^ k.keyLength)
    (hg : k.generator < 256 ^ k.keyLength) (hp : k.publicKey < 256 ^ k.keyLength) :
    (ffcKeyPack k).bind ffcKeyUnpack = .ok k := by
  -- the length guard of `FFCDHKey.unpack` (DESIGN 8, D13), in the encoder's term
  have hlen : ¬ (4 + (4 + (k.keyLength + (k.keyLength + k.keyLength)))) < 8 + 3 * k.keyLength := by omega
  simp only [ffcKeyPack, ffcKeyUnpack, wire, except_nf, hk, hf, hg, hp, hlen, ne_eq, not_true_eq_false]

@[wire] theorem curveOfMagic_magic (c : Curve) : curveOfMagic (curveMagic c) = some c := by cases c <;> decide

structure KeyId.WF (k : KeyId) : Prop where
  version : k.version < 2 ^ 32
  flags : k.flags < 2 ^ 32
  l0 : k.l0 < 2 ^ 32
  l1 : k.l1 < 2 ^ 32
  l2 : k.l2 < 2 ^ 32
  rk : k.rootKeyId.length = 16
  keyInfo : k.keyInfo.length < 2 ^ 32
  domain : utf16Valid k.domainName = true ∧ k.domainName.length + 2 < 2 ^ 32
  forest : utf16Valid k.forestName = true ∧ k.forestName.length + 2 < 2 ^ 32

theorem keyId_rt (k : KeyId) (h : k.WF) : (keyIdPack k).bind keyIdUnpack = .ok k := by
  simp only [keyIdPack, keyIdUnpack, wire, except_nf, h.version, h.flags, h.l0, h.l1, h.l2, h.rk, h.keyInfo, h.domain.1, h.domain.2,
    h.forest.1, h.forest.2, uuidOf, ne_eq, not_true_eq_false]

structure Envelope.WF (e : Envelope) : Prop where
  version : e.version < 2 ^ 32
  flags : e.flags < 2 ^ 32
  l0 : e.l0 < 2 ^ 32
  l1 : e.l1 < 2 ^ 32
  l2 : e.l2 < 2 ^ 32
  rk : e.rootKeyId.length = 16
  kdfAlg : utf16Valid e.kdfAlgorithm = true ∧ e.kdfAlgorithm.length + 2 < 2 ^ 32
  kdfPar : e.kdfParameters.length < 2 ^ 32
  secAlg : utf16Valid e.secretAlgorithm = true ∧ e.secretAlgorithm.length + 2 < 2 ^ 32
  secPar : e.secretParameters.length < 2 ^ 32
  priv : e.privateKeyLength < 2 ^ 32
  pub : e.publicKeyLength < 2 ^ 32
  domain : utf16Valid e.domainName = true ∧ e.domainName.length + 2 < 2 ^ 32
  forest : utf16Valid e.forestName = true ∧ e.forestName.length + 2 < 2 ^ 32
  l1Key : e.l1Key.length < 2 ^ 32
  l2Key : e.l2Key.length < 2 ^ 32

structure GetKey.WF (g : GetKey) : Prop where
  sd : g.targetSd.length < 2 ^ 32
  rk : ∀ id, g.rootKeyId = some id → id.length = 16
  l0 : -2147483648 ≤ g.l0 ∧ g.l0 ≤ 2147483647
  l1 : -2147483648 ≤ g.l1 ∧ g.l1 ≤ 2147483647
  l2 : -2147483648 ≤ g.l2 ∧ g.l2 ≤ 2147483647

/-- the [unique] pointer to the root key id: referent and GUID, or a null pointer -/
def rkPart (rk : Option Bytes) : Bytes :=
  match rk with
  | some id => [0, 0, 2, 0, 0, 0, 0, 0] ++ id
  | none => Py.zeros 8

/-- L0, L1, L2 as three signed 32-bit LONGs -/
def idsPart (g : GetKey) : Bytes :=
  Py.toLE (g.l0 % 4294967296).toNat 4 ++ Py.toLE (g.l1 % 4294967296).toNat 4 ++ Py.toLE (g.l2 % 4294967296).toNat 4

theorem getKeyPack_eq (g : GetKey) (h : g.WF) :
    getKeyPack g = .ok (Py.toLE g.targetSd.length 8 ++ Py.toLE g.targetSd.length 8 ++ g.targetSd
      ++ Py.zeros (Py.negMod g.targetSd.length 8) ++ rkPart g.rootKeyId ++ idsPart g) := by
  obtain ⟨hsd, hrk, h0, h1, h2⟩ := h
  obtain ⟨sd, rk, l0, l1, l2⟩ := g
  simp only at hsd
  have h8 : sd.length < 256 ^ 8 := by omega
  cases rk <;>
  simp only [getKeyPack, except_nf, Py.toBytesLE_ok _ 8 h8, Py.toBytesLESigned4_ok _ h0, Py.toBytesLESigned4_ok _ h1,
    Py.toBytesLESigned4_ok _ h2, rkPart, idsPart, List.append_assoc]

/-- decoding of an NDR64 GetKey reply: pcbOut (4) + pad (4) + referent (8) + max count (8) + bytes + pad + HRESULT -/
theorem unpackResponse_ok (b ref mc pad : Bytes) (e : Envelope) (hb : b.length < 2 ^ 32) (href : ref.length = 8) (hmc : mc.length = 8)
    (he : envelopeUnpack b = .ok e) :
    getKeyUnpackResponse (Py.toLE b.length 4 ++ Py.zeros 4 ++ ref ++ mc ++ b ++ pad ++ Py.toLE 0 4) = .ok e := by
  have v0 : Py.fromLE (Py.toLE 0 4) = 0 := by decide
  unfold getKeyUnpackResponse
  rw [Py.sliceFrom_neg _ _ (-4) (by simp) (by simp), Py.sliceTo_neg _ _ (-4) (by simp) (by simp)]
  simp only [v0, wire, hb, href, hmc, he, ne_eq, not_true_eq_false]

end DpapiNg.Gkdi
