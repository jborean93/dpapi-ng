/-
  Computations in `R = Except PyErr`.  The simp set `except_nf` brings a straight-line program to one chain of `>>=` over
  its primitive steps; with `interp`, which runs an interpreter on a literal program, it proves "this hand-written model
  function is the interpretation of that regenerated program" without a case split per step.  The inversion lemmas
  (`bind_ok_iff`, `map_ok_iff`, `guard_ok_iff`) say what a successful computation tells about its steps (for a failed one
  there is no such lemma: `cases` on the first step and `error_bind` / `ok_bind` do it).  None of these is `@[simp]`: a bare
  `simp [...]` on a goal in `R` wants `except_nf` in its list.
-/
import DpapiNg.Model.Py
import DpapiNg.Proofs.Attr
namespace DpapiNg
variable {α β γ : Type}

-- Proved by `id rfl`, not `rfl`: simp uses a `rfl` lemma as a definitional step and records no proof.  The kernel then has to
-- find the reduction again on the whole goal, which on the long chains here costs more than everything else; and where the
-- step rewrote the condition of an `if`, its `Decidable` instance is left stale and the lemmas about `ite` no longer match.
@[except_nf] theorem ok_bind (x : α) (f : α → R β) : (Except.ok x >>= f) = f x := id rfl
@[except_nf] theorem error_bind (e : PyErr) (f : α → R β) : ((Except.error e : R α) >>= f) = .error e := id rfl
@[except_nf] theorem pure_eq_ok (a : α) : (pure a : R α) = .ok a := id rfl
@[except_nf] theorem throw_eq_error (e : PyErr) : (throw e : R α) = .error e := id rfl
@[except_nf] theorem exceptBind_eq (x : R α) (f : α → R β) : Except.bind x f = x >>= f := id rfl
@[except_nf] theorem map_ok (f : α → β) (a : α) : Except.map f (.ok a : R α) = .ok (f a) := id rfl
@[except_nf] theorem map_error (f : α → β) (e : PyErr) : Except.map f (.error e : R α) = .error e := id rfl
@[except_nf] theorem fmap_eq (f : α → β) (x : R α) : f <$> x = Except.map f x := id rfl

@[except_nf] theorem map_bind (f : β → γ) (x : R α) (g : α → R β) : Except.map f (x >>= g) = x >>= fun a => Except.map f (g a) := by
  cases x <;> rfl
@[except_nf] theorem bind_map (f : α → β) (x : R α) (g : β → R γ) : Except.map f x >>= g = x >>= fun a => g (f a) := by
  cases x <;> rfl
@[except_nf] theorem bind_ok_right (x : R α) : (x >>= fun a => Except.ok a) = x := by
  cases x <;> rfl
@[except_nf] theorem map_ite (f : α → β) (c : Prop) [Decidable c] (a b : R α) :
    Except.map f (if c then a else b) = if c then Except.map f a else Except.map f b := by
  split <;> rfl
@[except_nf] theorem ite_bind (c : Prop) [Decidable c] (a b : R α) (f : α → R β) :
    (if c then a else b) >>= f = if c then a >>= f else b >>= f := by
  split <;> rfl

/-- `if a or b: raise …` is the same as two tests in a row (not in `except_nf`: where a proof holds the disjunction as a
    hypothesis it wants the guard as it is) -/
theorem ite_or (c d : Prop) [Decidable c] [Decidable d] (a b : α) :
    (if c ∨ d then a else b) = if c then a else if d then a else b := by
  by_cases c <;> by_cases d <;> simp [*]

attribute [except_nf] bind_assoc ite_not

/-- two continuations need only agree on what the first step can return -/
theorem bind_congr_ok {x : R α} {f g : α → R β} (h : ∀ a, x = .ok a → f a = g a) : x >>= f = x >>= g := by
  cases x with
  | error e => rfl
  | ok a => exact h a rfl

attribute [interp] List.map List.lookup Option.getD Bool.false_eq_true List.append_nil List.nil_append List.append_assoc
attribute [interp_proc] String.reduceEq String.reduceBEq
-- before the branches are visited: a dead branch is not normalised, and no `Decidable` instance on strings is evaluated
attribute [interp_proc ↓] reduceIte

/-! ### what a successful computation tells about its steps -/

theorem bind_ok_iff {α β : Type} {m : R α} {f : α → R β} {b : β} : (m >>= f) = .ok b ↔ ∃ a, m = .ok a ∧ f a = .ok b := by
  cases m with
  | error e => simp [bind, Except.bind]
  | ok a => simp [bind, Except.bind]

theorem map_ok_iff {α β : Type} {m : R α} {f : α → β} {b : β} : m.map f = .ok b ↔ ∃ a, m = .ok a ∧ f a = b := by
  cases m with
  | error e => simp [Except.map]
  | ok a => simp [Except.map]

/-- `if c: raise e` in the middle of a `do` block (the join-point shape the `do` elaborator produces) -/
theorem guard_ok_iff {β : Type} {c : Prop} [Decidable c] {e : PyErr} {f : PUnit → R β} {b : β} :
    (if c then (throw e : R PUnit) >>= f else f ⟨⟩) = .ok b ↔ ¬ c ∧ f ⟨⟩ = .ok b := by
  split
  · rename_i h; constructor
    · intro h'; cases h'
    · intro ⟨h', _⟩; exact absurd h h'
  · rename_i h; exact ⟨fun h' => ⟨h, h'⟩, fun h' => h'.2⟩

theorem throw_ne_ok {α : Type} (e : PyErr) (a : α) : ((throw e : R α) = .ok a) = False := eq_false nofun

/-- The codec lemmas say `∀ rest, unpack (b ++ rest) = y`: what is read from in front of anything is read from the bytes alone. -/
theorem of_append_nil {α β : Type} {f : List α → β} {b : List α} {y : β} (h : ∀ rest, f (b ++ rest) = y) : f b = y :=
  List.append_nil b ▸ h []

end DpapiNg

/-! Instances of the constructor rules above under other names: with `Except.bind` / `Except.map` applied directly (namespaces
    `Plan`, `Fields`), and once more with `>>=` in namespace `Blob` (where `pure_eq_ok` therefore resolves to the copy). -/
namespace DpapiNg.Plan
theorem ok_bind {α β : Type} (x : α) (F : α → Except PyErr β) : Except.bind (Except.ok x : Except PyErr α) F = F x := DpapiNg.ok_bind x F
theorem map_ok {α β : Type} (a : α) (f : α → β) : Except.map f (Except.ok a : Except PyErr α) = Except.ok (f a) := DpapiNg.map_ok f a
theorem map_err {α β : Type} (e : PyErr) (f : α → β) : Except.map f (Except.error e : Except PyErr α) = Except.error e := DpapiNg.map_error f e
end DpapiNg.Plan
namespace DpapiNg.Fields
theorem ok_bind {α β : Type} (x : α) (F : α → Except PyErr β) : Except.bind (Except.ok x : Except PyErr α) F = F x := DpapiNg.ok_bind x F
theorem err_bind {α β : Type} (e : PyErr) (F : α → Except PyErr β) : Except.bind (Except.error e : Except PyErr α) F = Except.error e := DpapiNg.error_bind e F
theorem map_ok {α β : Type} (a : α) (f : α → β) : Except.map f (Except.ok a : Except PyErr α) = Except.ok (f a) := DpapiNg.map_ok f a
theorem map_err {α β : Type} (e : PyErr) (f : α → β) : Except.map f (Except.error e : Except PyErr α) = Except.error e := DpapiNg.map_error f e
end DpapiNg.Fields
namespace DpapiNg.Blob
theorem bind_ok {α β : Type} (x : α) (f : α → R β) : (Except.ok x >>= f) = f x := ok_bind x f
theorem bind_error {α β : Type} (e : PyErr) (f : α → R β) : ((Except.error e : R α) >>= f) = .error e := error_bind e f
theorem pure_eq_ok {α : Type} (a : α) : (pure a : R α) = .ok a := DpapiNg.pure_eq_ok a
theorem bind_append_nil (x : R Bytes) : (x >>= fun a => HAppend.hAppend a <$> (Except.ok [] : R Bytes)) = x := by
  simp only [except_nf, List.append_nil]
end DpapiNg.Blob
