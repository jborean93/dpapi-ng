/-
  The L2 walk is the L1 walk with context function `c2 i`, and `K2 i ·` is the `K1` chain started from `kdf (K1 i) (c2 i 31)`:
  every L2 fact is the L1 fact at another context function.
-/
import DpapiNg.Model.Chain
namespace DpapiNg.Chain
variable {Key Ctx : Type} (kdf : Key → Ctx → Key) (c1 : Nat → Ctx) (c2 : Nat → Nat → Ctx)

theorem walk2_eq_walk1 (k : Key) (i l n : Nat) : walk2 kdf c2 k i l n = walk1 kdf (c2 i) k l n := by
  induction n generalizing k l with
  | zero => rfl
  | succ n ih => exact ih ..

theorem K2_eq_K1 (k31 : Key) (i j : Nat) : K2 kdf c1 c2 k31 i j = K1 kdf (c2 i) (kdf (K1 kdf c1 k31 i) (c2 i 31)) j :=
  walk2_eq_walk1 ..

theorem walk1_add (k : Key) (l n m : Nat) :
    walk1 kdf c1 (walk1 kdf c1 k l n) (l - n) m = walk1 kdf c1 k l (n + m) := by
  induction n generalizing k l with
  | zero => rw [Nat.zero_add]; rfl
  | succ n ih => rw [Nat.succ_add, Nat.sub_succ', Nat.sub_right_comm]; exact ih ..

theorem walk1_K1 (k31 : Key) (a n : Nat) (ha : a ≤ 31) (hn : n ≤ a) :
    walk1 kdf c1 (K1 kdf c1 k31 a) a n = K1 kdf c1 k31 (a - n) := by
  have h := walk1_add kdf c1 k31 31 (31 - a) n
  rw [Nat.sub_sub_self ha] at h
  unfold K1; rw [h]; congr 1; omega

theorem walk2_K2 (k31 : Key) (i b n : Nat) (hb : b ≤ 31) (hn : n ≤ b) :
    walk2 kdf c2 (K2 kdf c1 c2 k31 i b) i b n = K2 kdf c1 c2 k31 i (b - n) := by
  rw [walk2_eq_walk1, K2_eq_K1, K2_eq_K1]; exact walk1_K1 kdf (c2 i) _ b n hb hn

end DpapiNg.Chain
