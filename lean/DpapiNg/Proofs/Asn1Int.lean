/-
  The content octets of `_pack_asn1_integer` and `_read_asn1_integer` are inverse for every integer (`packLE_spec`; the TLV
  around them is `Asn1.readInteger_tlv`), and the non-negative ones are minimal (`digitsPos_minimal`).
  Little-endian digit lists: the Python writer builds LE then reverses; the reader's carry
  walks BE from the end = LE from the start.
-/
import DpapiNg.Model.Asn1
import DpapiNg.Proofs.PyLemmas
namespace DpapiNg.Asn1

/-- `IsBytes`, for a list read as little-endian digits -/
abbrev Dig (ds : List Nat) : Prop := IsBytes ds

@[simp] theorem valLE_nil : valLE [] = 0 := rfl
@[simp] theorem valLE_cons (d : Nat) (ds : List Nat) : valLE (d :: ds) = d + 256 * valLE ds := rfl

theorem valLE_lt (ds : List Nat) (h : Dig ds) : valLE ds < 256 ^ ds.length := Py.fromLE_lt ds h

theorem incLE_length (ds : List Nat) : (incLE ds).length = ds.length := by
  induction ds with
  | nil => rfl
  | cons d ds ih => simp only [incLE]; split <;> simp [ih]

theorem incLE_ne_nil {ds : List Nat} (h : ds ≠ []) : incLE ds ≠ [] := fun e =>
  h (List.eq_nil_of_length_eq_zero (by rw [← incLE_length, e]; rfl))

theorem top_cons (d : Nat) (ds : List Nat) (hne : ds ≠ []) : top (d :: ds) = top ds := by
  cases ds with
  | nil => exact absurd rfl hne
  | cons d' ds' => rfl

/-- the increment keeps octets octets and, unless it overflows, adds one and does not lower the top digit -/
theorem incLE_spec (ds : List Nat) (h : IsBytes ds) :
    IsBytes (incLE ds) ∧ (valLE ds + 1 < 256 ^ ds.length → valLE (incLE ds) = valLE ds + 1 ∧ top ds ≤ top (incLE ds)) := by
  induction ds with
  | nil => exact ⟨h, fun hno => absurd hno (by decide)⟩
  | cons d ds ih =>
    obtain ⟨hd, ht⟩ := isBytes_cons.mp h
    obtain ⟨h1, h2⟩ := ih ht
    simp only [incLE]; split
    · exact ⟨isBytes_cons.mpr ⟨by omega, ht⟩, fun _ => ⟨by simp only [valLE_cons]; omega, by cases ds <;> simp [top]⟩⟩
    · refine ⟨isBytes_cons.mpr ⟨by omega, h1⟩, fun hno => ?_⟩
      have hne : ds ≠ [] := by rintro rfl; simp at hno; omega
      obtain ⟨h3, h4⟩ := h2 (by simp only [valLE_cons, List.length_cons, Nat.pow_succ] at hno; omega)
      exact ⟨by simp only [valLE_cons, h3]; omega, by rw [top_cons _ _ hne, top_cons _ _ (incLE_ne_nil hne)]; exact h4⟩

theorem map_inv_val (ds : List Nat) (h : IsBytes ds) :
    valLE (ds.map (0xFF - ·)) + valLE ds + 1 = 256 ^ ds.length := by
  induction ds with
  | nil => simp
  | cons d ds ih =>
    obtain ⟨hd, ht⟩ := isBytes_cons.mp h
    have := ih ht
    simp only [List.map_cons, valLE_cons, List.length_cons, Nat.pow_succ]; omega

theorem map_inv_dig (ds : List Nat) : IsBytes (ds.map (0xFF - ·)) := by
  intro x hx; simp at hx; obtain ⟨a, _, rfl⟩ := hx; omega

theorem top_lt (ds : List Nat) (h : Dig ds) : top ds < 256 := by
  induction ds with
  | nil => simp [top]
  | cons d ds ih =>
    cases ds with
    | nil => exact (isBytes_cons.mp h).1
    | cons d' ds' => exact ih (isBytes_cons.mp h).2

theorem top_append_one (ds : List Nat) (x : Nat) : top (ds ++ [x]) = x := by
  induction ds with
  | nil => simp [top]
  | cons d ds ih =>
    cases ds with
    | nil => simp [top]
    | cons d' ds' => simpa [top] using ih

/-- a digit string is what lies below its most significant digit, plus that digit at its weight -/
theorem val_split (ds : List Nat) (hne : ds ≠ []) :
    valLE ds = valLE ds.dropLast + 256 ^ (ds.length - 1) * top ds := by
  induction ds with
  | nil => exact absurd rfl hne
  | cons d ds ih =>
    cases ds with
    | nil => simp [valLE_cons, valLE_nil, top]
    | cons d' ds' =>
      have := ih (by simp)
      simp only [valLE_cons, List.dropLast_cons_cons, top, List.length_cons, Nat.add_sub_cancel] at this ⊢
      rw [Nat.pow_succ]
      have e : 256 ^ ds'.length * 256 * top (d' :: ds') = 256 * (256 ^ ds'.length * top (d' :: ds')) := by
        rw [Nat.mul_comm (256 ^ ds'.length) 256, Nat.mul_assoc]
      rw [e]; omega

theorem top_le_val (ds : List Nat) : top ds ≤ valLE ds := by
  cases ds with
  | nil => exact Nat.le_refl 0
  | cons d ds =>
    rw [val_split _ (List.cons_ne_nil d ds)]
    exact Nat.le_trans (Nat.le_mul_of_pos_left _ (Nat.pow_pos (by decide))) (Nat.le_add_left ..)

/-- the reader computes the signed (two's complement) value of the digit string -/
theorem readLE_signed (ds : List Nat) (h : IsBytes ds) :
    readLE ds = if 0x80 ≤ top ds then (valLE ds : Int) - ((256 ^ ds.length : Nat) : Int) else (valLE ds : Int) := by
  unfold readLE
  split
  · rename_i ht
    have hinv := map_inv_val ds h
    have hpos := top_le_val ds
    rw [((incLE_spec _ (map_inv_dig ds)).2 (by rw [List.length_map]; omega)).1]
    omega
  · rfl

theorem digitsPos_spec (v : Nat) :
    valLE (digitsPos v) = v ∧ IsBytes (digitsPos v) ∧ digitsPos v ≠ [] ∧ top (digitsPos v) ≤ 0x7F := by
  fun_induction digitsPos v with
  | case1 v h => exact ⟨by simp, isBytes_cons.mpr ⟨by omega, isBytes_nil⟩, by simp, h⟩
  | case2 v h ih =>
    obtain ⟨h1, h2, h3, h4⟩ := ih
    exact ⟨by simp only [valLE_cons, h1]; omega, isBytes_cons.mpr ⟨by omega, h2⟩, by simp, by rw [top_cons _ _ h3]; exact h4⟩

/-- the complement of `n` at the width the loop finds; that width leaves the top digit at 0x7F or above -/
theorem digitsNegRaw_spec (n : Nat) :
    valLE (digitsNegRaw n) + n + 1 = 256 ^ (digitsNegRaw n).length ∧ IsBytes (digitsNegRaw n) ∧ digitsNegRaw n ≠ [] ∧
    0x7F ≤ top (digitsNegRaw n) := by
  fun_induction digitsNegRaw n with
  | case1 n h => exact ⟨by simp only [valLE_cons, valLE_nil, List.length_singleton]; omega, isBytes_cons.mpr ⟨by omega, isBytes_nil⟩, by simp,
      by simp only [top]; omega⟩
  | case2 n h ih =>
    obtain ⟨h1, h2, h3, h4⟩ := ih
    exact ⟨by simp only [valLE_cons, List.length_cons, Nat.pow_succ]; omega, isBytes_cons.mpr ⟨by omega, h2⟩, by simp,
      by rw [top_cons _ _ h3]; exact h4⟩

/-- the writer's octets are non-empty, are octets, and read back as `v` -/
theorem packLE_spec (v : Int) : readLE (packLE v) = v ∧ IsBytes (packLE v) ∧ packLE v ≠ [] := by
  unfold packLE
  split
  · obtain ⟨h1, h2, h3, h4⟩ := digitsNegRaw_spec v.natAbs
    generalize digitsNegRaw v.natAbs = raw at h1 h2 h3 h4
    -- `b = incLE raw` is `256 ^ k - |v|` in `k` octets, top digit still 0x7F or above
    have hb := (incLE_spec raw h2).1
    obtain ⟨hval, htop⟩ := (incLE_spec raw h2).2 (by omega)
    simp only []
    split
    · -- top digit 0x7F: the sign bit is clear, one more octet 0xFF
      have hd : IsBytes (incLE raw ++ [0xFF]) := isBytes_append.mpr ⟨hb, by decide⟩
      refine ⟨?_, hd, by simp⟩
      have happ : valLE (incLE raw ++ [0xFF]) = valLE (incLE raw) + 256 ^ (incLE raw).length * valLE [0xFF] :=
        Py.fromLE_append _ _
      rw [readLE_signed _ hd, top_append_one, if_pos (by decide), happ, List.length_append, incLE_length, hval, List.length_singleton,
        Nat.pow_succ]
      simp only [valLE_cons, valLE_nil]
      omega
    · refine ⟨?_, hb, incLE_ne_nil h3⟩
      rw [readLE_signed _ hb, if_pos (by omega), incLE_length, hval]
      omega
  · obtain ⟨h1, h2, h3, h4⟩ := digitsPos_spec v.toNat
    refine ⟨?_, h2, h3⟩
    rw [readLE_signed _ h2, if_neg (by omega), h1]
    omega

/-- the positive loop appends another octet only while the remaining value exceeds 0x7F, so a
    multi-octet encoding never starts with a redundant 00 octet -/
theorem digitsPos_minimal (v : Nat) :
    (digitsPos v).length > 1 → ¬ (top (digitsPos v) = 0 ∧ top ((digitsPos v).dropLast) < 0x80) := by
  fun_induction digitsPos v with
  | case1 v h => exact fun hl => absurd hl (Nat.lt_irrefl 1)
  | case2 v h ih =>
    obtain ⟨hv, _, hne, _⟩ := digitsPos_spec (v / 256)
    generalize digitsPos (v / 256) = ds at ih hv hne
    intro _
    match ds, ih, hv, hne with
    | [w], _, hv, _ => simp only [valLE_cons, valLE_nil] at hv; simp only [top, List.dropLast]; omega
    | _ :: _ :: _, ih, _, _ => exact ih (by simp)

end DpapiNg.Asn1
