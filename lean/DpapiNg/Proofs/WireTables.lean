/-
  Tables that tie the endpoint-mapper floors and the verification-trailer commands to /repo's source:
  the byte layout of `Floor.pack`, the protocol / command-type numbers and which number each known class carries
  (obligations `Gen.Const*_eq`), and the arguments each known floor hands to `Floor(...)` (obligations `Gen.CallFloor*_eq`);
  the theorems below state what the hand-written models (`Epm.floorPack`, `Rpc.cmdValueUnpack`) do in terms of those tables.
-/
import DpapiNg.Model.Epm
import DpapiNg.Proofs.Layout
namespace DpapiNg
open DpapiNg.Layout

namespace Epm
open DpapiNg.Rpc

def floorLayout : List Item := [.lenPlus 1 "lhs" 2, .int "protocol" 1, .bytes "lhs", .lenOf "rhs" 2, .bytes "rhs"]
def floorEnv (proto : Nat) (lhs rhs : Bytes) : Env where
  ints f := if f = "protocol" then proto else 0
  bytes f := if f = "lhs" then .ok lhs else if f = "rhs" then .ok rhs else .error .keyError

theorem rawPack_eq_layout (proto : Nat) (lhs rhs : Bytes) : rawPack proto lhs rhs = Layout.pack (floorEnv proto lhs rhs) floorLayout := by
  simp only [rawPack, floorLayout, floorEnv, le, interp, except_nf, Nat.add_comm 1]

-- `FloorProtocol` members
def protoTcp : Nat := 7
def protoIp : Nat := 9
def protoRpcCo : Nat := 11
def protoUuid : Nat := 13
-- the `protocol` default of each known floor class
def tcpFloorProtocol : String := "FloorProtocol.TCP"
def ipFloorProtocol : String := "FloorProtocol.IP"
def rpcCoFloorProtocol : String := "FloorProtocol.RPC_CONNECTION_ORIENTED"
def uuidFloorProtocol : String := "FloorProtocol.UUID_ID"

-- the arguments of `Floor(...)` in each known floor's `pack`
def tcpFloorCall : List (String × String) := [("#0", "self.protocol"), ("#1", "b''"), ("#2", "self.port.to_bytes(2, byteorder='big')")]
def ipFloorCall : List (String × String) := [("#0", "self.protocol"), ("#1", "b''"), ("#2", "self.addr.to_bytes(4, byteorder='big')")]
def rpcCoFloorCall : List (String × String) :=
  [("#0", "self.protocol"), ("#1", "b''"), ("#2", "self.version_minor.to_bytes(2, byteorder='little')")]
def uuidFloorCall : List (String × String) :=
  [("lhs", "self.uuid.bytes_le + self.version.to_bytes(2, byteorder='little')"), ("protocol", "self.protocol"),
   ("rhs", "self.version_minor.to_bytes(2, byteorder='little')")]

theorem floorPack_tcp (port : Nat) : floorPack (.tcp port) = (Py.toBytesBE port 2).bind fun r => rawPack protoTcp [] r := rfl
theorem floorPack_ip (addr : Nat) : floorPack (.ip addr) = (Py.toBytesBE addr 4).bind fun r => rawPack protoIp [] r := rfl
theorem floorPack_rpcCo (m : Nat) : floorPack (.rpcCo m) = (le m 2).bind fun r => rawPack protoRpcCo [] r := rfl
theorem floorPack_uuid (u : Bytes) (v m : Nat) :
    floorPack (.uuid u v m) = (le v 2).bind fun a => (le m 2).bind fun r => rawPack protoUuid (u ++ a) r := rfl

end Epm

namespace Rpc
-- `CommandType` members
def cmdBitmask1 : Nat := 1
def cmdPContext : Nat := 2
def cmdHeader2 : Nat := 3
-- `CommandFlags` members
def cmdFlagEnd : Nat := 16384
def cmdFlagMustProcess : Nat := 32768
-- the `command` default of each known command class
def bitmaskCommand : String := "CommandType.SEC_VT_COMMAND_BITMASK_1"
def pcontextCommand : String := "CommandType.SEC_VT_COMMAND_PCONTEXT"
def header2Command : String := "CommandType.SEC_VT_COMMAND_HEADER2"

theorem cmdValueUnpack_bitmask (v : Bytes) : cmdValueUnpack cmdBitmask1 v = .ok (.bitmask (Py.fromLE v)) := rfl
theorem cmdValueUnpack_pcontext (v : Bytes) :
    cmdValueUnpack cmdPContext v = (syntaxUnpack v).bind fun i => (syntaxUnpack (v.drop 20)).bind fun t => .ok (.pcontext i t) := rfl
theorem cmdValueUnpack_other (ct : Nat) (v : Bytes) (h1 : ct ≠ cmdBitmask1) (h2 : ct ≠ cmdPContext) (h3 : ct ≠ cmdHeader2) :
    cmdValueUnpack ct v = .ok (.raw v) := by
  simp only [cmdBitmask1, cmdPContext, cmdHeader2] at h1 h2 h3
  simp only [cmdValueUnpack, h1, h2, h3, ↓reduceIte, except_nf]

/-- the END test of `VerificationTrailer.unpack` is bit `cmdFlagEnd` of the flags `Command.unpack` split off -/
theorem vtCommands_end (fuel : Nat) (v : Bytes) (c : Command) (n : Nat) (hl : ¬ v.length < 4) (hc : commandUnpack v = .ok (c, n))
    (he : c.flags / cmdFlagEnd % 2 = 1) : vtCommands (fuel + 1) v = .ok [c] := by
  simp only [cmdFlagEnd] at he
  simp only [vtCommands, hl, hc, he, ↓reduceIte, except_nf]

end Rpc
end DpapiNg
