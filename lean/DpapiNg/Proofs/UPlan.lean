/-
  `Blob.blobUnpack` (the model of `DPAPINGBlob.unpack`) IS the interpretation of the unpack plan that the translator regenerates from
  /repo's source on every run (obligation `Gen.UPlanBlob_eq`, closed by `rfl`): the split at the outer ContentInfo, the content-type
  test, EnvelopedData.unpack, the four-way shape test (version 2, exactly one recipient info, a KEKRecipientInfo, version 4),
  KeyIdentifier.unpack, the protection-descriptor attribute test, ProtectionDescriptor.unpack, the `or` fallbacks, the constructor keywords.
-/
import DpapiNg.Model.UPlan
import DpapiNg.Proofs.WProg
import DpapiNg.Proofs.Safe
namespace DpapiNg.Blob
open DpapiNg DpapiNg.Asn1 DpapiNg.WProg DpapiNg.UPlan

/-- `x.a.b` -/
def p (x : String) (attrs : List String) : UExpr := attrs.foldl UExpr.attr (.var x)

def blobUnpackPlan : List Step × List (String × UExpr) :=
  ([.split "content_info",
    .reject [.oidNe (p "content_info" ["content_type"]) oidEnvelopedData],
    .unpack "enveloped_data" "EnvelopedData" (p "content_info" ["content"]),
    .reject [.intNe (p "enveloped_data" ["version"]) 2, .lenNe (p "enveloped_data" ["recipient_infos"]) 1,
             .notInstance (.first (p "enveloped_data" ["recipient_infos"])) "KEKRecipientInfo",
             .intNe (.attr (.first (p "enveloped_data" ["recipient_infos"])) "version") 4],
    .alias "kek_info" (.first (p "enveloped_data" ["recipient_infos"])),
    .unpack "key_identifier" "KeyIdentifier" (p "kek_info" ["kekid", "key_identifier"]),
    .reject [.falsy (p "kek_info" ["kekid", "other"]), .oidNe (p "kek_info" ["kekid", "other", "key_attr_id"]) oidMicrosoftSoftware],
    .unpack "protection_descriptor" "ProtectionDescriptor" (.orEmpty (p "kek_info" ["kekid", "other", "key_attr"])),
    .alias "enc_content" (.orRest (p "enveloped_data" ["encrypted_content_info", "content"]))],
   [("key_identifier", .var "key_identifier"), ("protection_descriptor", .var "protection_descriptor"),
    ("enc_cek", p "kek_info" ["encrypted_key"]), ("enc_cek_algorithm", p "kek_info" ["key_encryption_algorithm", "algorithm"]),
    ("enc_cek_parameters", p "kek_info" ["key_encryption_algorithm", "parameters"]), ("enc_content", .var "enc_content"),
    ("enc_content_algorithm", p "enveloped_data" ["encrypted_content_info", "algorithm", "algorithm"]),
    ("enc_content_parameters", p "enveloped_data" ["encrypted_content_info", "algorithm", "parameters"])])

def KeyId.toVal (k : Gkdi.KeyId) : Val :=
  .obj [("version", .int k.version), ("flags", .int k.flags), ("l0", .int k.l0), ("l1", .int k.l1), ("l2", .int k.l2),
        ("root_key_identifier", .bytes k.rootKeyId), ("key_info", .bytes k.keyInfo), ("domain_name", .bytes k.domainName),
        ("forest_name", .bytes k.forestName)]

def Blob.toVal (b : Blob) : Val :=
  .obj [("key_identifier", KeyId.toVal b.keyId), ("protection_descriptor", .bytes b.sid), ("enc_cek", .bytes b.encCek),
        ("enc_cek_algorithm", .oid b.encCekAlg), ("enc_cek_parameters", optBytes b.encCekParams), ("enc_content", .bytes b.encContent),
        ("enc_content_algorithm", .oid b.encContentAlg), ("enc_content_parameters", optBytes b.encContentParams)]

/-- `Cls.unpack(<bytes>)` for the three classes `DPAPINGBlob.unpack` calls -/
def ucall : UPlan.Call := fun cls v =>
  match v with
  | .bytes b =>
    if cls = "EnvelopedData" then (envelopedDataUnpack b).map EnvelopedData.toVal
    else if cls = "KeyIdentifier" then (Gkdi.keyIdUnpack b).map KeyId.toVal
    else if cls = "ProtectionDescriptor" then (protDescUnpack b).map Val.bytes
    else .error .typeError
  | _ => .error .typeError

attribute [interp] UPlan.runSteps UPlan.eval UPlan.Cond.holds List.any List.foldl

/-- `EnvelopedData.unpack` accepts version 2 only -/
theorem envelopedDataUnpack_version (v : Bytes) (ed : EnvelopedData) (h : envelopedDataUnpack v = .ok ed) : ed.version = 2 :=
  (show Post (envelopedDataUnpack v) fun ed => ed.version = 2 from
    post_bind' fun _ => post_bind' fun _ => post_guard fun hv => post_bind' fun _ => post_bind' fun _ => post_bind' fun _ =>
      post_pure.mpr (Classical.not_not.mp hv)) ed h

theorem blobUnpack_eq_plan (data : Bytes) :
    (blobUnpack data).map Blob.toVal = UPlan.run ucall blobUnpackPlan data := by
  unfold blobUnpack blobUnpackPlan UPlan.run
  simp only [interp, except_nf, p, ucall]
  refine bind_congr fun h => bind_congr fun ci => ?_
  simp only [Bool.or_false, bne_iff_ne, ne_eq, ite_not]
  split
  · refine bind_congr_ok fun ed hed => ?_
    -- the plan's `version != 2` disjunct, which the model omits, is dead after a successful EnvelopedData decode
    have hv := envelopedDataUnpack_version _ _ hed
    obtain ⟨ver, ris, eci⟩ := ed
    subst hv
    match ris with
    | [] | _ :: _ :: _ =>
      simp only [interp, except_nf, EnvelopedData.toVal, List.length_cons, List.length_nil, Nat.reduceBneDiff, bne_self_eq_false,
        Bool.false_or, Bool.true_or]
    | [ri] =>
      obtain ⟨rv, ⟨ki, date, other⟩, alg, ek⟩ := ri
      cases other <;>
        simp only [interp, except_nf, EnvelopedData.toVal, KekRi.toVal, KekId.toVal, AlgId.toVal, EncContentInfo.toVal, OtherAttr.toVal, Blob.toVal,
          optBytes_truthy, optBytes_or, orEmpty_of_truthy, truthy_none, truthy_obj, List.length_cons, List.length_nil, bne_self_eq_false, Bool.false_or,
          Bool.not_true, Bool.not_false, Bool.true_or, bne_iff_ne, ne_eq, ite_not]
  · rfl

theorem optBytes_injective {a b : Option Bytes} (h : optBytes a = optBytes b) : a = b := by
  cases a <;> cases b <;> simp_all [optBytes]

theorem KeyId.toVal_injective {a b : Gkdi.KeyId} (h : KeyId.toVal a = KeyId.toVal b) : a = b := by
  cases a; cases b
  -- the image lists the fields in the order of the structure, so its injectivity is that of the constructor
  simpa only [KeyId.toVal, Val.obj.injEq, List.cons.injEq, Prod.mk.injEq, Val.int.injEq, Val.bytes.injEq, true_and, and_true,
    Int.natCast_inj, Gkdi.KeyId.mk.injEq] using h

/-- the `Val` image pins the blob down: equal images, equal blobs (so `blobUnpack_eq_plan` determines `blobUnpack`) -/
theorem Blob.toVal_injective {a b : Blob} (h : Blob.toVal a = Blob.toVal b) : a = b := by
  obtain ⟨k, sid, ck, ca, cp, ec, ea, ep⟩ := a
  obtain ⟨k', sid', ck', ca', cp', ec', ea', ep'⟩ := b
  simp only [Blob.toVal, Val.obj.injEq, List.cons.injEq, Prod.mk.injEq, Val.bytes.injEq, Val.oid.injEq, true_and, and_true] at h
  obtain ⟨h1, h2, h3, h4, h5, h6, h7, h8⟩ := h
  have := KeyId.toVal_injective h1
  have := optBytes_injective h5
  have := optBytes_injective h8
  subst_vars
  rfl

end DpapiNg.Blob
