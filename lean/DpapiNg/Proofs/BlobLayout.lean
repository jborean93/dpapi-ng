/-
  What the CMS writers of `_pkcs7.py` / `_blob.py` emit, as encodings of `Spec.Cms` trees.  The RFC 5652 productions are
  named here (`kekIdTree` …) so that the writer side and the reader side (Proofs/BlobRt) speak of the same trees;
  `blobTree` is their composition (`blobTree_eq`).
-/
import DpapiNg.Spec.Cms
import DpapiNg.Proofs.Asn1Steps
import DpapiNg.Proofs.WProg
namespace DpapiNg.Blob
open DpapiNg DpapiNg.Asn1 DpapiNg.Spec.Cms

/-! The four object identifiers the blob carries, as the writer emits them. -/
theorem packOid_sidProtector : packOid oidSidProtector = .ok (oidNode 1 3 [6, 1, 4, 1, 311, 74, 1, 1]).encode :=
  packOid_ok 1 3 _ (by decide) (by decide)
theorem packOid_microsoftSoftware : packOid oidMicrosoftSoftware = .ok (oidNode 1 3 [6, 1, 4, 1, 311, 74, 1]).encode :=
  packOid_ok 1 3 _ (by decide) (by decide)
theorem packOid_data : packOid oidData = .ok (oidNode 1 2 [840, 113549, 1, 7, 1]).encode :=
  packOid_ok 1 2 _ (by decide) (by decide)
theorem packOid_envelopedData : packOid oidEnvelopedData = .ok (oidNode 1 2 [840, 113549, 1, 7, 3]).encode :=
  packOid_ok 1 2 _ (by decide) (by decide)

theorem protDescPack_eq (sid : Bytes) : protDescPack sid = .ok (protDescTree sid).encode := by
  simp only [protDescPack, packOid_sidProtector, packUtf8_ok, wSeq_ok, ok_bind, protDescTree, seq, Der.encode, encodeList,
    List.append_nil]

theorem optRaw_eq (p : Option Bytes) : encodeList (optRaw p) = orEmpty p := by
  rw [optRaw, ← orEmpty_of_truthy p]; split <;> simp only [encodeList, Der.encode, List.append_nil]

theorem algIdPack_eq (a b : Nat) (r : List Nat) (p : Option Bytes) (ha : a ≤ 2) (hb : b ≤ 39) :
    algIdPack ⟨a :: b :: r, p⟩ = .ok (seq (oidNode a b r :: optRaw p)).encode := by
  simp only [algIdPack, packOid_ok a b r ha hb, wSeq_ok, ok_bind, seq, oidNode, Der.encode, encodeList, optRaw_eq, orEmpty_of_truthy]

/-- KEKIdentifier { keyIdentifier, OtherKeyAttribute { keyAttrId, keyAttr } } -/
def kekIdTree (kid : Bytes) (a b : Nat) (r : List Nat) (attr : Der) : Der :=
  .cons tSEQ [.prim tOCTET kid, .cons tSEQ [oidNode a b r, attr]]
/-- [2] KEKRecipientInfo { version, kekid, keyEncryptionAlgorithm, encryptedKey } -/
def kekRiTree (ver : Int) (kidT algT : Der) (ek : Bytes) : Der := .cons (ctx 2 true) [intNode ver, kidT, algT, .prim tOCTET ek]
/-- EncryptedContentInfo { contentType, contentEncryptionAlgorithm, [0] content? } -/
def eciTree (a b : Nat) (r : List Nat) (algT : Der) (content : Bytes) : Der :=
  .cons tSEQ ([oidNode a b r, algT] ++ (if content ≠ [] then [.prim (ctx 0 false) content] else []))
/-- EnvelopedData { version 2, SET { one RecipientInfo }, EncryptedContentInfo } -/
def envTree (ri eci : Der) : Der := .cons tSEQ [intNode 2, .cons tSET [ri], eci]
/-- ContentInfo { contentType, [0] content } -/
def ciTree (a b : Nat) (r : List Nat) (content : Der) : Der := .cons tSEQ [oidNode a b r, .cons (ctx 0 true) [content]]

theorem blobTree_eq (kid : Bytes) (b : Blob) (a1 b1 : Nat) (r1 : List Nat) (a2 b2 : Nat) (r2 : List Nat) (inEnv : Bool) :
    blobTree kid b a1 b1 r1 a2 b2 r2 inEnv =
      ciTree 1 2 [840, 113549, 1, 7, 3] (envTree
        (kekRiTree 4 (kekIdTree kid 1 3 [6, 1, 4, 1, 311, 74, 1] (protDescTree b.sid)) (seq (oidNode a1 b1 r1 :: optRaw b.encCekParams)) b.encCek)
        (eciTree 1 2 [840, 113549, 1, 7, 1] (seq (oidNode a2 b2 r2 :: optRaw b.encContentParams)) (if inEnv then b.encContent else []))) := by
  cases inEnv <;> simp [blobTree, ciTree, envTree, kekRiTree, kekIdTree, eciTree, seq]

/-! One lemma per writer of `_pkcs7.py`: what it emits for a value whose parts are packed is the encoding of the production
    over the parts' trees. -/

theorem kekIdPack_eq (kid : Bytes) (oid : List Nat) (a b : Nat) (r : List Nat) (attr : Der)
    (ho : packOid oid = .ok (oidNode a b r).encode) (hattr : attr.encode ≠ []) :
    kekIdPack ⟨kid, none, some ⟨oid, some attr.encode⟩⟩ = .ok (kekIdTree kid a b r attr).encode := by
  simp only [kekIdPack, otherAttrPack, packOctet_ok, ho, wSeq_ok, ok_bind, pure_eq_ok, truthy_of_none,
    truthy_some_ne, hattr, orEmpty, Option.getD_some, Bool.false_eq_true, ne_eq, not_false_eq_true, if_true, if_false,
    kekIdTree, Der.encode, encodeList, List.append_nil]

theorem kekRiPack_eq (ver : Int) (kv : KekId) (av : AlgId) (kidT algT : Der) (ek : Bytes)
    (hk : kekIdPack kv = .ok kidT.encode) (ha : algIdPack av = .ok algT.encode) :
    kekRiPack ⟨ver, kv, av, ek⟩ = .ok (kekRiTree ver kidT algT ek).encode := by
  simp only [kekRiPack, packInteger_ok, hk, ha, packOctet_ok, packTLV_ok _ wf_c2c, ok_bind,
    kekRiTree, intNode, Der.encode, encodeList, List.append_nil, List.append_assoc]

theorem encContentInfoPack_eq (oid : List Nat) (a b : Nat) (r : List Nat) (av : AlgId) (algT : Der) (content : Bytes)
    (ho : packOid oid = .ok (oidNode a b r).encode) (hA : algIdPack av = .ok algT.encode) :
    encContentInfoPack ⟨oid, av, some content⟩ = .ok (eciTree a b r algT content).encode := by
  by_cases hc : content = [] <;>
    simp only [encContentInfoPack, ho, hA, packOctetTag_ok _ _ wf_c0p, wSeq_ok, ok_bind, pure_eq_ok,
      truthy_some_ne, hc, orEmpty, Option.getD_some, ne_eq, not_true_eq_false, not_false_eq_true, if_true, if_false,
      eciTree, Der.encode, encodeList, List.append_nil, List.append_assoc, List.cons_append, List.nil_append]

theorem envelopedDataPack_eq (riv : KekRi) (eciv : EncContentInfo) (ri eci : Der)
    (hri : kekRiPack riv = .ok ri.encode) (heci : encContentInfoPack eciv = .ok eci.encode) :
    envelopedDataPack ⟨2, [riv], eciv⟩ = .ok (envTree ri eci).encode := by
  simp only [envelopedDataPack, packInteger_ok, List.mapM_cons, List.mapM_nil, hri, heci, wSet_ok, wSeq_ok, ok_bind, pure_eq_ok,
    List.flatten_cons, List.flatten_nil, envTree, intNode, Der.encode, encodeList, List.append_nil, List.append_assoc]

theorem contentInfoPack_eq (oid : List Nat) (a b : Nat) (r : List Nat) (content : Der)
    (ho : packOid oid = .ok (oidNode a b r).encode) :
    contentInfoPack oid content.encode = .ok (ciTree a b r content).encode := by
  simp only [contentInfoPack, ho, packOctetTag_ok _ _ wf_c0c, wSeq_ok, ok_bind, ciTree, Der.encode, encodeList, List.append_nil]

/-- The emitted blob is exactly the minimal-DER encoding of the RFC 5652 tree (plus the ciphertext after
    the envelope in the trailing layout). -/
theorem blobPack_eq_spec (b : Blob) (kid : Bytes) (a1 b1 : Nat) (r1 : List Nat) (a2 b2 : Nat) (r2 : List Nat) (inEnv : Bool)
    (hk : Gkdi.keyIdPack b.keyId = .ok kid)
    (h1 : b.encCekAlg = a1 :: b1 :: r1) (ha1 : a1 ≤ 2) (hb1 : b1 ≤ 39)
    (h2 : b.encContentAlg = a2 :: b2 :: r2) (ha2 : a2 ≤ 2) (hb2 : b2 ≤ 39) :
    blobPack b inEnv = .ok ((blobTree kid b a1 b1 r1 a2 b2 r2 inEnv).encode ++ (if inEnv then [] else b.encContent)) := by
  have hEd := envelopedDataPack_eq _ _ _ _
    (kekRiPack_eq 4 _ _ _ _ b.encCek (kekIdPack_eq kid _ _ _ _ (protDescTree b.sid) packOid_microsoftSoftware (tlv_ne_nil _ _))
      (algIdPack_eq a1 b1 r1 b.encCekParams ha1 hb1))
    (encContentInfoPack_eq _ _ _ _ _ _ (if inEnv then b.encContent else []) packOid_data
      (algIdPack_eq a2 b2 r2 b.encContentParams ha2 hb2))
  rw [blobTree_eq]
  simp only [blobPack, hk, protDescPack_eq, h1, h2, ok_bind, pure_eq_ok, hEd, contentInfoPack_eq _ _ _ _ _ packOid_envelopedData]

end DpapiNg.Blob
