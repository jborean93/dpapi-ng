/-
  `compute_kek`, `compute_public_key` and `new_kek` by what they return: the DH branch of `compute_kek` stated once, and
  `new_kek` inverted once.  C03 (agreement), C04 (rejection of degenerate values) and the client lemmas read off these.
-/
import DpapiNg.Model.Gkdi
import DpapiNg.Proofs.PyLemmas
import DpapiNg.Proofs.PowMod
import DpapiNg.Proofs.Norm

namespace DpapiNg.Gkdi
open DpapiNg

/-- the last two steps of `compute_kek`: SP800-56A concat KDF, then SP800-108 -/
def kekOf (C : Crypto) (alg sh : Hash) (shared : Bytes) : Bytes :=
  C.kdf alg (C.kdfConcat sh shared sha512Label kdsPublicKeyLabel kdsServiceLabel sh.digestSize) kdsServiceLabel kdsPublicKeyLabel 32

theorem dh_ne_ecdh : ecdhPrefix.isPrefixOf dhName = false := by decide

/-- the group check of `compute_kek` (DESIGN 8, D15): the root key's parameters, when present, must name the key's own p and g -/
def groupCheck (sp : Bytes) (k : FfcKey) : R Unit :=
  if sp = [] then .ok () else
    ffcParamsUnpack sp >>= fun q =>
      if k.fieldOrder ≠ q.fieldOrder ∨ k.generator ≠ q.generator then .error .valueError else .ok ()

def GroupOk (sp : Bytes) (k : FfcKey) : Prop :=
  sp = [] ∨ ∃ q, ffcParamsUnpack sp = .ok q ∧ q.fieldOrder = k.fieldOrder ∧ q.generator = k.generator

theorem groupCheck_ok {sp : Bytes} {k : FfcKey} (h : GroupOk sp k) : groupCheck sp k = .ok () := by
  unfold groupCheck; split
  · rfl
  · obtain ⟨q, hq, h1, h2⟩ := h.resolve_left ‹_›
    simp only [hq, h1, h2, ne_eq, not_true_eq_false, or_self, if_false, except_nf]

/-- the DH branch of `compute_kek` once the peer's key is decoded: group check, range check 2 ≤ y ≤ p − 2, `pow(y, x, p)`
    padded to `key_length`, then the two KDFs -/
theorem computeKek_dh_eq {C : Crypto} {alg : Hash} {sp priv pub : Bytes} {k : FfcKey} (hu : ffcKeyUnpack pub = .ok k) :
    computeKek C alg dhName sp priv pub =
      groupCheck sp k >>= fun _ =>
      if 1 < k.publicKey ∧ k.publicKey < k.fieldOrder - 1 then
        if k.fieldOrder = 0 then .error .valueError
        else Py.toBytesBE (Py.powMod k.publicKey (Py.fromBE priv) k.fieldOrder) k.keyLength >>= fun b =>
          .ok (kekOf C alg .sha256 b)
      else .error .valueError := by
  simp only [computeKek, groupCheck, if_true, hu, kekOf, except_nf]

theorem computeKek_dh (C : Crypto) (alg : Hash) (sp priv pub : Bytes) (k : FfcKey) (hu : ffcKeyUnpack pub = .ok k)
    (hsp : GroupOk sp k) (hy : 1 < k.publicKey ∧ k.publicKey < k.fieldOrder - 1) (hw : k.fieldOrder ≤ 256 ^ k.keyLength) :
    computeKek C alg dhName sp priv pub
      = .ok (kekOf C alg .sha256 (Py.toBE (Py.powMod k.publicKey (Py.fromBE priv) k.fieldOrder) k.keyLength)) := by
  have hlt : Py.powMod k.publicKey (Py.fromBE priv) k.fieldOrder < 256 ^ k.keyLength :=
    Nat.lt_of_lt_of_le (Py.powMod_lt _ _ _ (by omega)) hw
  rw [computeKek_dh_eq hu, groupCheck_ok hsp, if_pos hy, if_neg (by omega), Py.toBytesBE_ok _ _ hlt]
  rfl

theorem computePublicKey_dh (C : Crypto) (priv peer : Bytes) (k : FfcKey) (hu : ffcKeyUnpack peer = .ok k)
    (hp : 0 < k.fieldOrder) :
    computePublicKey C dhName priv peer
      = ffcKeyPack ⟨k.keyLength, k.fieldOrder, k.generator, Py.powMod k.generator (Py.fromBE priv) k.fieldOrder⟩ := by
  simp only [computePublicKey, if_true, hu, if_neg (Nat.ne_of_gt hp), except_nf]

/-- an FFC key packs only if its modulus fits `key_length` octets -/
theorem ffcKeyPack_fits {k : FfcKey} {b : Bytes} (h : ffcKeyPack k = .ok b) : k.fieldOrder < 256 ^ k.keyLength := by
  unfold ffcKeyPack at h
  obtain ⟨_, h, _⟩ := bind_ok_iff.mp h
  exact (Py.toBytesBE_eq_ok h).1

/-- `new_kek` inverted: the KDF is the supported one, its parameters name a hash, the KEK and the key identifier's key_info
    come from the L2 key (seed mode: the draw itself is the nonce) or from the group public key (the draw is the ephemeral
    private key), and the key identifier copies the envelope's position and names -/
theorem newKek_eq_ok {C : Crypto} {e : Envelope} {rnd kek : Bytes} {kid : KeyId} (h : newKek C e rnd = .ok (kek, kid)) :
    e.kdfAlgorithm = kdfAlgName ∧ ∃ hn alg ki, kdfParamsUnpack e.kdfParameters = .ok hn ∧ hashOfName hn = .ok alg ∧
      (if e.isPublicKey then computeKek C alg e.secretAlgorithm e.secretParameters rnd e.l2Key = .ok kek ∧
          computePublicKey C e.secretAlgorithm rnd e.l2Key = .ok ki
        else kek = C.kdf alg e.l2Key kdsServiceLabel rnd 32 ∧ ki = rnd) ∧
      kid = ⟨1, e.flags, e.l0, e.l1, e.l2, e.rootKeyId, ki, e.domainName, e.forestName⟩ := by
  unfold newKek at h
  split at h
  · cases h
  · refine ⟨Decidable.not_not.mp ‹_›, ?_⟩
    obtain ⟨hn, h1, h⟩ := bind_ok_iff.mp h
    obtain ⟨alg, h2, h⟩ := bind_ok_iff.mp h
    obtain ⟨⟨kek', ki⟩, h3, h⟩ := bind_ok_iff.mp h
    cases h
    refine ⟨hn, alg, ki, h1, h2, ?_, rfl⟩
    by_cases hpub : e.isPublicKey = true
    · rw [if_pos hpub] at h3 ⊢
      obtain ⟨_, h4, h3⟩ := bind_ok_iff.mp h3
      obtain ⟨_, h5, h3⟩ := bind_ok_iff.mp h3
      cases h3; exact ⟨h4, h5⟩
    · rw [if_neg hpub] at h3 ⊢
      cases h3; exact ⟨rfl, rfl⟩

theorem newKek_isPublicKey {C : Crypto} {e : Envelope} {rnd kek : Bytes} {kid : KeyId} (h : newKek C e rnd = .ok (kek, kid)) :
    kid.isPublicKey = e.isPublicKey := by
  obtain ⟨_, _, _, _, _, _, _, rfl⟩ := newKek_eq_ok h; rfl

/-- nonce mode: the key identifier's key_info is the draw -/
theorem newKek_nonce_keyInfo {C : Crypto} {key : Envelope} {rnd kek : Bytes} {kid : KeyId} (hpub : key.isPublicKey = false)
    (h : newKek C key rnd = .ok (kek, kid)) : kid.keyInfo = rnd := by
  obtain ⟨_, _, _, _, _, _, hk, rfl⟩ := newKek_eq_ok h
  rw [if_neg (by simp [hpub])] at hk
  exact hk.2

/-- the key identifier `new_kek` makes names the envelope's position -/
theorem newKek_keyId {C : Crypto} {key : Envelope} {rnd kek : Bytes} {kid : KeyId} (hk : newKek C key rnd = .ok (kek, kid)) :
    kid.rootKeyId = key.rootKeyId ∧ kid.l0 = key.l0 ∧ kid.l1 = key.l1 ∧ kid.l2 = key.l2 := by
  obtain ⟨_, _, _, _, _, _, _, rfl⟩ := newKek_eq_ok hk
  exact ⟨rfl, rfl, rfl, rfl⟩

end DpapiNg.Gkdi
