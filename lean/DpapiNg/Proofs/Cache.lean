/-
  `KeyCache._get_key` and `_store_key` by cases, and what `setSeed` does to one entry: the lemmas through which the cache
  theorems (C10, the API round trip) use the definitions of Model/Cache.lean.  At the end, the one fact that ties the clock to
  the cache: the position a clock value names is in range (C09, the API round trip).
  (`Pos.le_trans`, `Pos.le_of_lt`, `Pos.le_top` stand beside the definitions in Model/Cache.lean.)
-/
import DpapiNg.Model.Cache
import DpapiNg.Model.Time

namespace DpapiNg.Cache

theorem Pos.top_inRange : Pos.top.InRange := ⟨Nat.le_refl _, Nat.le_refl _⟩
theorem Pos.le_refl (p : Pos) : Pos.le p p := by unfold Pos.le; omega
theorem Pos.not_lt_of_le {a b : Pos} (h : Pos.le a b) : ¬ Pos.lt b a := by
  unfold Pos.lt; unfold Pos.le at h; omega
theorem Pos.le_of_not_lt {a b : Pos} (h : ¬ Pos.lt a b) : Pos.le b a := by
  unfold Pos.le; unfold Pos.lt at h; omega

section
variable {K R P RK E : Type} [DecidableEq K]
variable (rkOf : K → R) (rootEnv : RK → K → Except E P)

theorem setSeed_same (s : State K R P RK) (k : K) (e : Env P) : (setSeed s k e).seeds k = some e := if_pos rfl
theorem setSeed_other (s : State K R P RK) {k k' : K} (e : Env P) (h : k' ≠ k) : (setSeed s k e).seeds k' = s.seeds k' :=
  if_neg h

variable {rkOf rootEnv} in
/-- an entry that covers `p` is returned as it is -/
theorem getKey_of_covered {s : State K R P RK} {k : K} {p : Pos} {e : Env P} (he : s.seeds k = some e) (hle : Pos.le p e.pos) :
    getKey rkOf rootEnv s k p = (.hit e, s) := by
  simp only [getKey, he, if_pos hle]

/-- `_get_key` by cases: an entry that covers `p` is returned as it is; otherwise (no entry of `k` covers `p`) the root-key
    path decides, and only its success changes the state (the entry of `k` becomes the root envelope at `top`) -/
theorem getKey_cases (s : State K R P RK) (k : K) (p : Pos) :
    (∃ e, getKey rkOf rootEnv s k p = (.hit e, s) ∧ s.seeds k = some e ∧ Pos.le p e.pos) ∨
    (∀ e, s.seeds k = some e → ¬ Pos.le p e.pos) ∧
    ((∃ r pl, getKey rkOf rootEnv s k p = (.hit ⟨Pos.top, pl⟩, setSeed s k ⟨Pos.top, pl⟩) ∧
      s.roots (rkOf k) = some r ∧ rootEnv r k = .ok pl) ∨
    (∃ r err, getKey rkOf rootEnv s k p = (.fail err, s) ∧ s.roots (rkOf k) = some r ∧ rootEnv r k = .error err) ∨
    (getKey rkOf rootEnv s k p = (.miss, s) ∧ s.roots (rkOf k) = none)) := by
  by_cases hc : ∃ e, s.seeds k = some e ∧ Pos.le p e.pos
  · obtain ⟨e, he, hle⟩ := hc
    exact .inl ⟨e, getKey_of_covered he hle, he, hle⟩
  · have hno : ∀ e, s.seeds k = some e → ¬ Pos.le p e.pos := fun e he hle => hc ⟨e, he, hle⟩
    have hg : getKey rkOf rootEnv s k p = fromRoot rkOf rootEnv s k := by
      unfold getKey; split
      · exact if_neg (hno _ ‹_›)
      · rfl
    rw [hg]; unfold fromRoot; refine .inr ⟨hno, ?_⟩
    cases s.roots (rkOf k) with
    | none => exact .inr (.inr ⟨rfl, rfl⟩)
    | some r =>
      cases hpl : rootEnv r k with
      | ok pl => exact .inl ⟨r, pl, by simp only [hpl], rfl, hpl⟩
      | error err => exact .inr (.inl ⟨r, err, by simp only [hpl], rfl, hpl⟩)

/-- `_store_key` by cases: it writes exactly when the new envelope is later than what is there -/
theorem storeKey_cases (s : State K R P RK) (k : K) (e : Env P) :
    (storeKey s k e = setSeed s k e ∧ ∀ ex, s.seeds k = some ex → Pos.lt ex.pos e.pos) ∨
    (∃ ex, storeKey s k e = s ∧ s.seeds k = some ex ∧ Pos.le e.pos ex.pos) := by
  unfold storeKey
  cases s.seeds k with
  | none => exact .inl ⟨rfl, nofun⟩
  | some ex =>
    by_cases hlt : Pos.lt ex.pos e.pos
    · exact .inl ⟨if_pos hlt, fun _ h => Option.some.inj h ▸ hlt⟩
    · exact .inr ⟨ex, if_neg hlt, rfl, Pos.le_of_not_lt hlt⟩

theorem getKey_roots (s : State K R P RK) (k : K) (p : Pos) : (getKey rkOf rootEnv s k p).2.roots = s.roots := by
  rcases getKey_cases rkOf rootEnv s k p with ⟨_, hg, _⟩ | ⟨-, ⟨_, _, hg, _⟩ | ⟨_, _, hg, _⟩ | ⟨hg, _⟩⟩ <;> rw [hg] <;> rfl

theorem storeKey_roots (s : State K R P RK) (k : K) (e : Env P) : (storeKey s k e).roots = s.roots := by
  rcases storeKey_cases s k e with ⟨hst, _⟩ | ⟨_, hst, _⟩ <;> rw [hst] <;> rfl

end
end DpapiNg.Cache

namespace DpapiNg.Time

/-- the (L1, L2) position any clock value names is in range -/
theorem pos_inRange (t : Nat) : (⟨l1 t, l2 t⟩ : Cache.Pos).InRange := by
  unfold Cache.Pos.InRange l1 l2; simp only; omega

end DpapiNg.Time
