/-
  Decoding loops that are handed a count or fuel: items packed with `mapM` and flattened are read back by the loop given their
  number (`counted_rt`), and a loop that consumes input on every round does not depend on a count beyond what the input can hold
  (`fuel_stable`).
-/
import DpapiNg.Proofs.Norm
namespace DpapiNg

/-- One induction for every counted loop: it suffices that one more packed item in front makes the loop yield one more
    element.  `out` says how the loop presents its result: `fun xs _ => xs`, or `Prod.mk` when it also returns the
    unread rest. -/
theorem counted_rt {α β : Type} {pack : α → R Bytes} {loop : Nat → Bytes → R β} {out : List α → Bytes → β} {xs : List α}
    (h0 : ∀ v, loop 0 v = .ok (out [] v))
    (hs : ∀ x ∈ xs, ∃ b, pack x = .ok b ∧
      ∀ n v ys w, loop n v = .ok (out ys w) → loop (n + 1) (b ++ v) = .ok (out (x :: ys) w)) :
    ∃ bs, xs.mapM pack = .ok bs ∧ ∀ rest, loop xs.length (bs.flatten ++ rest) = .ok (out xs rest) := by
  induction xs with
  | nil => exact ⟨[], rfl, h0⟩
  | cons x xs ih =>
    obtain ⟨bs, h1, h2⟩ := ih (fun y hy => hs y (List.mem_cons_of_mem _ hy))
    obtain ⟨b, hb, hstep⟩ := hs x List.mem_cons_self
    refine ⟨b :: bs, by simp only [List.mapM_cons, hb, h1, except_nf], fun rest => ?_⟩
    rw [List.flatten_cons, List.append_assoc]
    exact hstep _ _ _ _ (h2 rest)

theorem mapM_flatten_length {α : Type} {pack : α → R Bytes} {k : Nat} {xs : List α} {bs : List Bytes} (h : xs.mapM pack = .ok bs)
    (hk : ∀ x ∈ xs, ∀ b, pack x = .ok b → b.length = k) : bs.flatten.length = k * xs.length := by
  induction xs generalizing bs with
  | nil => cases h; rfl
  | cons x xs ih =>
    rw [List.mapM_cons] at h
    obtain ⟨b, hb, h⟩ := bind_ok_iff.mp h
    obtain ⟨bs', hbs, h⟩ := bind_ok_iff.mp h
    cases h
    rw [List.flatten_cons, List.length_append, hk x List.mem_cons_self b hb, ih hbs (fun y hy => hk y (List.mem_cons_of_mem _ hy)),
      List.length_cons, Nat.mul_succ, Nat.add_comm]

/-- A decoding loop `F` driven by a count or by fuel, whose every recursive call is on a view at least `c` octets shorter
    (`hF`: the result of one more round depends on the rounds below only at such views), gives the same result for every
    count above `|v| / c`. -/
theorem fuel_stable {β : Type} {c : Nat} {F : Nat → Bytes → R β}
    (hF : ∀ n m v, (∀ w : Bytes, w.length + c ≤ v.length → F n w = F m w) → F (n + 1) v = F (m + 1) v)
    (n : Nat) (v : Bytes) (hv : v.length < c * n) (k : Nat) : F (n + k) v = F n v := by
  induction n generalizing v with
  | zero => omega
  | succ n ih =>
    rw [Nat.add_right_comm]
    exact hF _ _ v fun w hw => ih w (by rw [Nat.mul_succ] at hv; omega)

end DpapiNg
