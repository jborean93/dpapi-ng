/-
  C05, work bounds: the data-driven loops of the blob parser make at most one iteration per input octet.
-/
import DpapiNg.Proofs.Asn1Rt
import DpapiNg.Proofs.Safe
import DpapiNg.Model.Blob
namespace DpapiNg.Asn1
open DpapiNg

theorem unpackOctetNumberAux_consumed (b : Bytes) (acc idx n k : Nat) (h : unpackOctetNumberAux b acc idx = .ok (n, k)) :
    idx + 1 ≤ k ∧ k ≤ idx + b.length := by
  induction b generalizing acc idx with
  | nil => simp [unpackOctetNumberAux] at h
  | cons e rest ih =>
    simp only [unpackOctetNumberAux] at h
    split at h
    · cases h; simp
    · have := ih _ _ h; simp; omega

theorem unpackOctetNumber_consumed (b : Bytes) (n k : Nat) (h : unpackOctetNumber b = .ok (n, k)) : 1 ≤ k ∧ k ≤ b.length := by
  have := unpackOctetNumberAux_consumed b 0 0 n k h; omega

/-- the OID arc loop makes at most one iteration per content octet -/
theorem readArcs_length_le (fuel : Nat) (b : Bytes) : Post (readArcs fuel b) fun arcs => arcs.length ≤ b.length := by
  fun_induction readArcs fuel b with
  | case3 _ x xs ih =>
    refine post_bind_iff.mpr fun (n, k) h1 => post_bind (ih k) fun _ h2 => post_ok.mpr ?_
    have hk := unpackOctetNumber_consumed _ _ _ h1
    simp only [List.length_drop, List.length_cons] at h2 ⊢
    omega
  | _ => exact post_ok.mpr (Nat.zero_le _)

theorem post_readLength (v : Bytes) : Post (readLength v) fun p => 1 ≤ p.1 := by
  cases v <;> simp only [readLength, post, Nat.le_add_right, Nat.le_refl]

theorem post_readIdentifier (v : Bytes) : Post (readIdentifier v) fun p => 1 ≤ p.2 := by
  cases v <;> simp only [readIdentifier, post, Nat.le_add_right]

theorem readHeader_size (v : Bytes) : Post (readHeader v) fun h => 2 ≤ h.tagLength :=
  post_bind (post_readIdentifier v) fun _ hn => post_bind (post_readLength _) fun _ ha => post_ok.mpr (Nat.add_le_add hn ha)

end DpapiNg.Asn1

namespace DpapiNg.Blob
open DpapiNg DpapiNg.Asn1

/-- every KEKRecipientInfo that is read consumes at least one octet of the SET -/
theorem recipientInfoUnpack_consumes {v : Bytes} (hv : v ≠ []) : Post (recipientInfoUnpack v) fun p => p.2.length < v.length := by
  refine post_bind (readHeader_size v) fun hd h2 => post_guard fun _ => post_bind (Q := fun p => p.2.length < v.length)
    (post_map_iff.mpr fun p hp => ?_) fun _ hc => post_bind' fun _ => post_bind' fun _ => post_bind' fun _ => post_bind' fun _ =>
      post_pure.mpr hc
  obtain ⟨_, hsrc, _, hn, _⟩ := validateTag_eq_ok hp
  cases hsrc
  have := List.length_pos_iff.mpr hv
  simp only [List.length_drop]
  omega

/-- the `while recipient_infos_reader:` loop makes at most one iteration per octet of the SET -/
theorem recipientInfosUnpack_length_le (fuel : Nat) (v : Bytes) : Post (recipientInfosUnpack fuel v) fun ris => ris.length ≤ v.length := by
  fun_induction recipientInfosUnpack fuel v with
  | case3 _ x xs ih =>
    exact post_bind (recipientInfoUnpack_consumes (List.cons_ne_nil x xs)) fun _ hc => post_bind (ih _) fun _ h2 =>
      post_pure.mpr (Nat.succ_le_of_lt (Nat.lt_of_le_of_lt h2 hc))
  | _ => exact post_ok.mpr (Nat.zero_le _)

end DpapiNg.Blob
