/-
  The TLV as a whole: `tlv t c` is what every writer of `_asn1.py` emits; `readHeader` and `_validate_tag` read it back
  from the front of a view with exact consumption; and what a successful `_validate_tag` consists of on any view.
-/
import DpapiNg.Proofs.Asn1Tlv
import DpapiNg.Proofs.Asn1Int
namespace DpapiNg.Asn1
open DpapiNg.Blob (Lim)

/-- the bytes `packTLV` emits (its only failure is a class outside 0..3) -/
def tlv (t : Tag) (c : Bytes) : Bytes := identifierOctets t ++ lengthOctets c.length ++ c

theorem packTLV_ok (t : Tag) (ht : t.WF) (c : Bytes) : packTLV t c = .ok (tlv t c) := by
  unfold packTLV tlv
  have : ¬ t.cls > 3 := by have := ht.1; omega
  simp [this]

theorem packInteger_ok (v : Int) : packInteger v = .ok (tlv tINTEGER (packIntegerContent v)) := packTLV_ok _ wf_int _
theorem packOctet_ok (c : Bytes) : packOctetString c = .ok (tlv tOCTET c) := packTLV_ok _ wf_oct _
theorem packOctetTag_ok (c : Bytes) (t : Tag) (ht : t.WF) : packOctetString c (some t) = .ok (tlv t c) := packTLV_ok _ ht _
theorem packUtf8_ok (c : Bytes) : packUtf8 c = .ok (tlv tUTF8 c) := packTLV_ok _ wf_utf8 _

theorem identifierOctets_ne_nil (t : Tag) : identifierOctets t ≠ [] := by
  unfold identifierOctets; simp only; split <;> simp

theorem tlv_ne_nil (t : Tag) (c : Bytes) : tlv t c ≠ [] := by
  intro h
  have := congrArg List.length h
  simp only [tlv, List.length_append, List.length_nil] at this
  have h1 : 0 < (identifierOctets t).length := List.length_pos_iff.mpr (identifierOctets_ne_nil t)
  omega

theorem tlv_length (t : Tag) (c : Bytes) : (tlv t c).length = headerLen t c.length + c.length := by
  simp [tlv, headerLen, Nat.add_assoc]

end DpapiNg.Asn1
namespace DpapiNg.Blob
open DpapiNg.Asn1

theorem drop_tlv (t : Tag) (c rest : Bytes) : (tlv t c ++ rest).drop (tlv t c).length = rest := List.drop_left

end DpapiNg.Blob
namespace DpapiNg.Asn1
open DpapiNg.Blob (Lim)

theorem readHeader_tlv (t : Tag) (ht : t.WF) (c rest : Bytes) (hc : c.length < Lim) :
    readHeader (tlv t c ++ rest) = .ok ⟨t, headerLen t c.length, c.length⟩ := by
  unfold readHeader tlv
  simp only [List.append_assoc]
  rw [readIdentifier_packed t ht, ok_bind]
  simp only [List.drop_left]
  rw [readLength_packed _ hc, ok_bind]
  rfl

theorem drop_header (t : Tag) (c rest : Bytes) : List.drop (headerLen t c.length) (tlv t c ++ rest) = c ++ rest := by
  rw [tlv, List.append_assoc]
  exact List.drop_left' (by simp [headerLen])

/-- what `_validate_tag` does once it holds the header of the TLV at the front of the view -/
theorem validateTag_body (t : Tag) (c rest : Bytes) :
    (if (List.drop (headerLen t c.length) (tlv t c ++ rest)).length < c.length then (.error .notEnoughData : R (Bytes × Nat))
      else .ok ((List.drop (headerLen t c.length) (tlv t c ++ rest)).take c.length, headerLen t c.length + c.length))
      = .ok (c, (tlv t c).length) := by
  have hlt : ¬ (c ++ rest).length < c.length := by simp
  rw [drop_header, if_neg hlt, List.take_left, tlv_length]

/-- any reader built on `_validate_tag` recovers exactly the content and consumes exactly the TLV -/
theorem validateTag_tlv (t : Tag) (ht : t.WF) (c rest : Bytes) (hc : c.length < Lim)
    (expected : Option Tag) (typeTag : Tag) (hexp : expected.getD typeTag = t) :
    validateTag (tlv t c ++ rest) expected typeTag none = .ok (c, (tlv t c).length) := by
  simp only [validateTag, readHeader_tlv t ht c rest hc, ok_bind, hexp, ne_eq, not_true_eq_false, if_false, validateTag_body]

/-- same, when the caller passes the header it peeked (the `header=` argument) -/
theorem validateTag_tlv_header (t : Tag) (c rest : Bytes) (typeTag : Tag) :
    validateTag (tlv t c ++ rest) none typeTag (some ⟨t, headerLen t c.length, c.length⟩)
      = .ok (c, (tlv t c).length) := by
  simp only [validateTag, ok_bind, Option.getD, ne_eq, not_true_eq_false, if_false, validateTag_body]

theorem readInteger_tlv (v : Int) (rest : Bytes) (hc : (packIntegerContent v).length < Lim) :
    readInteger (tlv tINTEGER (packIntegerContent v) ++ rest) = .ok (v, (tlv tINTEGER (packIntegerContent v)).length) := by
  unfold readInteger
  rw [validateTag_tlv tINTEGER wf_int _ rest hc none tINTEGER rfl, ok_bind]
  have hne : packIntegerContent v ≠ [] := fun h => (packLE_spec v).2.2 (List.reverse_eq_nil_iff.mp h)
  simp only [hne, if_false]
  simp only [packIntegerContent, List.reverse_reverse, (packLE_spec v).1]

/-- what a successful `_validate_tag` returns: a slice of the view behind the header it was handed or read itself -/
theorem validateTag_eq_ok {v : Bytes} {e : Option Tag} {t : Tag} {h : Option Header} {c : Bytes} {n : Nat}
    (hv : validateTag v e t h = .ok (c, n)) :
    ∃ hd : Header, (match h with | some h0 => Except.ok h0 | none => readHeader v) = .ok hd ∧
      c = (v.drop hd.tagLength).take hd.length ∧ n = hd.tagLength + hd.length ∧ hd.length ≤ (v.drop hd.tagLength).length := by
  unfold validateTag at hv
  obtain ⟨hd, hh, hv⟩ := bind_ok_iff.mp hv
  generalize e.getD _ = exp at hv
  simp only [ne_eq, ite_not] at hv
  split at hv
  · split at hv
    · cases hv
    · cases hv; exact ⟨hd, hh, rfl, rfl, by omega⟩
  · cases hv

/-- the content `_validate_tag` returns consists of octets of the view -/
theorem validateTag_isBytes {v : Bytes} {e : Option Tag} {t : Tag} {h : Option Header} {c : Bytes} {n : Nat}
    (hb : IsBytes v) (hv : validateTag v e t h = .ok (c, n)) : IsBytes c := by
  obtain ⟨hd, _, rfl, _, _⟩ := validateTag_eq_ok hv
  exact isBytes_take (isBytes_drop hb _) _

/-- a TLV with a low tag number is at most 129 octets longer than its content: one identifier octet, at most 128 length octets -/
theorem tlv_length_le (t : Tag) (ht : t.num < 31) (c : Bytes) (hc : c.length < Lim) : (tlv t c).length ≤ c.length + 129 := by
  have hl : (lengthOctets c.length).length ≤ 128 := by
    rcases Nat.lt_or_ge c.length 128 with h | h
    · rw [lengthOctets_short h]; exact Nat.le_add_left 1 127
    · rw [lengthOctets_long h, List.length_cons, List.length_reverse]; exact Nat.succ_le_succ (minLE_length_le 127 _ hc)
  rw [tlv_length, headerLen, identifierOctets, if_pos ht, List.length_singleton]; omega

end DpapiNg.Asn1
