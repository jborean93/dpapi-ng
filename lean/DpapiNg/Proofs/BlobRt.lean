/-
  The decoders of `_pkcs7.py` / `_blob.py`, each on the encoding of the production it parses: one lemma per decoder, a run of
  the reader steps of Proofs/Asn1Steps.  `C06.unpack_pack` puts them together along the tree of a whole blob.
-/
import DpapiNg.Proofs.BlobLayout
import DpapiNg.Proofs.GkdiRt
namespace DpapiNg.Blob
open DpapiNg DpapiNg.Asn1 DpapiNg.Spec.Cms

mutual
/-- every content in the tree is short enough for `readLength` (a `raw` node is not looked into) -/
def Fits : Der → Prop
  | .prim _ c => c.length < Lim
  | .cons _ kids => (encodeList kids).length < Lim ∧ FitsList kids
  | .raw _ => True
def FitsList : List Der → Prop
  | [] => True
  | d :: ds => Fits d ∧ FitsList ds
end

theorem tlv_len_ge (t : Tag) (c : Bytes) : c.length ≤ (tlv t c).length := by rw [tlv_length]; omega

mutual
/-- a tree whose encoding is below the limit has every content below it -/
theorem fits_of_lt (d : Der) (h : d.encode.length < Lim) : Fits d := by
  cases d with
  | prim t c => exact Nat.lt_of_le_of_lt (tlv_len_ge t c) h
  | cons t kids =>
    have h' := Nat.lt_of_le_of_lt (tlv_len_ge t _) h
    exact ⟨h', fitsList_of_lt kids h'⟩
  | raw b => trivial
theorem fitsList_of_lt (ds : List Der) (h : (encodeList ds).length < Lim) : FitsList ds := by
  cases ds with
  | nil => trivial
  | cons d ds =>
    simp only [encodeList, List.length_append] at h
    exact ⟨fits_of_lt d (by omega), fitsList_of_lt ds (by omega)⟩
end

/-! `Fits` of a production hands `Fits` to its children. -/
theorem Fits.ciContent {a b : Nat} {r : List Nat} {c : Der} (h : Fits (ciTree a b r c)) : Fits c := by
  simp only [ciTree, Fits, FitsList] at h
  simp only [h]
theorem Fits.envKids {ri eci : Der} (h : Fits (envTree ri eci)) : Fits ri ∧ Fits eci := by
  simp only [envTree, Fits, FitsList] at h
  simp only [h, and_self]
theorem Fits.kekRiKids {ver : Int} {kidT algT : Der} {ek : Bytes} (h : Fits (kekRiTree ver kidT algT ek)) : Fits kidT ∧ Fits algT := by
  simp only [kekRiTree, Fits, FitsList] at h
  simp only [h, and_self]
theorem Fits.kekIdAttr {kid : Bytes} {a b : Nat} {r : List Nat} {attr : Der} (h : Fits (kekIdTree kid a b r attr)) : Fits attr := by
  simp only [kekIdTree, Fits, FitsList] at h
  simp only [h]

/-- parameters as the property's well-formedness demands: absent, or present and non-empty -/
def ParamsWF (p : Option Bytes) : Prop := p = none ∨ ∃ x, p = some x ∧ x ≠ []

theorem ParamsWF.orEmpty {p : Option Bytes} (h : ParamsWF p) : (if orEmpty p = [] then none else some (orEmpty p)) = p := by
  obtain rfl | ⟨x, rfl, hx⟩ := h
  · rfl
  · exact if_neg hx

/-! Each decoder of `_pkcs7.py` on the encoding of the RFC 5652 production it parses.  The trees are kept folded so that a
    decoder's lemma rewrites where its production occurs inside a larger one; `Fits` of the outermost tree is handed down.
    Every proof has the same two steps: unfold the production (`Der`, `seq`, `intNode` … are in Spec/Cms.lean), `Der.encode`,
    `encodeList`, `Fits` and `FitsList` in `hF` and in the goal, which leaves `hF` a conjunction of length bounds; then run
    the decoder over the reader-step lemmas `rd*_tlv` with `hF` discharging their bounds. -/

theorem algIdUnpack_encode (a b : Nat) (r : List Nat) (p : Option Bytes) (hb : b ≤ 39) (hp : ParamsWF p)
    (hF : Fits (seq (oidNode a b r :: optRaw p))) (rest : Bytes) :
    algIdUnpack ((seq (oidNode a b r :: optRaw p)).encode ++ rest) = .ok (⟨a :: b :: r, p⟩, rest) := by
  simp only [seq, oidNode, Der.encode, encodeList, Fits, FitsList, optRaw_eq] at hF ⊢
  simp only [algIdUnpack, rdSeq_tlv, rdOid_tlv, ok_bind, hF, hb, hp.orEmpty]
  rfl

theorem utf8SID_valid : utf8Valid utf8SID = true := by decide +kernel

/-- `ProtectionDescriptor.unpack` on every tree of its shape: the two comparisons are all that is left -/
theorem protDescUnpack_shape (a b : Nat) (r : List Nat) (u sid : Bytes) (hb : b ≤ 39)
    (hu : utf8Valid u = true) (hv : utf8Valid sid = true)
    (hF : Fits (seq [oidNode a b r, seq [seq [seq [.prim tUTF8 u, .prim tUTF8 sid]]]])) (rest : Bytes) :
    protDescUnpack ((seq [oidNode a b r, seq [seq [seq [.prim tUTF8 u, .prim tUTF8 sid]]]]).encode ++ rest)
      = if a :: b :: r = oidSidProtector ∧ u = utf8SID then .ok sid else .error .valueError := by
  simp only [seq, oidNode, Der.encode, encodeList, Fits, FitsList, and_true] at hF ⊢
  simp only [protDescUnpack, rdSeq_tlv, rdOid_tlv, rdUtf8_tlv, ok_bind, hF, hv, hu, hb]
  rfl

theorem protDescUnpack_append (sid : Bytes) (hv : utf8Valid sid = true) (hF : Fits (protDescTree sid)) (rest : Bytes) :
    protDescUnpack ((protDescTree sid).encode ++ rest) = .ok sid :=
  (protDescUnpack_shape 1 3 _ utf8SID sid (by decide) utf8SID_valid hv hF rest).trans (if_pos ⟨rfl, rfl⟩)

theorem protDescUnpack_encode (sid : Bytes) (hv : utf8Valid sid = true) (hlen : ((protDescTree sid).encode).length < Lim) :
    protDescUnpack (protDescTree sid).encode = .ok sid :=
  of_append_nil (protDescUnpack_append sid hv (fits_of_lt _ hlen))

theorem kekIdUnpack_encode (kid : Bytes) (a b : Nat) (r : List Nat) (attr : Der) (hb : b ≤ 39) (hattr : attr.encode ≠ [])
    (hF : Fits (kekIdTree kid a b r attr)) (rest : Bytes) :
    kekIdUnpack ((kekIdTree kid a b r attr).encode ++ rest) = .ok (⟨kid, none, some ⟨a :: b :: r, some attr.encode⟩⟩, rest) := by
  simp only [kekIdTree, oidNode, Der.encode, encodeList, Fits, FitsList, and_true] at hF ⊢
  -- the header peeked after the key identifier is the SEQUENCE (0, 16) of `other`, not a GeneralizedTime (0, 24): no date is read
  have c1 : tSEQ.cls = 0 := rfl
  have c2 : tSEQ.num = 16 := rfl
  simp only [kekIdUnpack, rdSeq_tlv, rdOctets_tlv, readHeader_tlv, rdSeq_hdr, rdOid_tlv, wf_seq, ok_bind, pure_eq_ok, hF, hb,
    c1, c2, Nat.reduceEqDiff, and_false, and_self, if_false, if_true]
  simp only [List.append_nil, hattr, if_false]

theorem recipientInfoUnpack_encode (ver : Int) (kidT algT : Der) (kv : KekId) (av : AlgId) (ek : Bytes)
    (hk : Fits kidT → ∀ rest, kekIdUnpack (kidT.encode ++ rest) = .ok (kv, rest))
    (ha : Fits algT → ∀ rest, algIdUnpack (algT.encode ++ rest) = .ok (av, rest))
    (hF : Fits (kekRiTree ver kidT algT ek)) (rest : Bytes) :
    recipientInfoUnpack ((kekRiTree ver kidT algT ek).encode ++ rest) = .ok (⟨ver, kv, av, ek⟩, rest) := by
  simp only [kekRiTree, intNode, Der.encode, encodeList, Fits, FitsList, and_true] at hF ⊢
  -- the choice is KEKRecipientInfo: the peeked header is [2]
  have c1 : (ctx 2 true).cls = 2 := rfl
  have c2 : (ctx 2 true).num = 2 := rfl
  simp only [recipientInfoUnpack, readHeader_tlv, wf_c2c, rdSeq_hdr, rdInt_tlv, rdOctets_tlv, hk, ha, ok_bind, pure_eq_ok, hF,
    c1, c2, and_self, not_true_eq_false, if_false]

theorem eciUnpack_encode (a b : Nat) (r : List Nat) (algT : Der) (av : AlgId) (content : Bytes) (hb : b ≤ 39)
    (hA : Fits algT → ∀ rest, algIdUnpack (algT.encode ++ rest) = .ok (av, rest)) (hF : Fits (eciTree a b r algT content)) (rest : Bytes) :
    encContentInfoUnpack ((eciTree a b r algT content).encode ++ rest)
      = .ok (⟨a :: b :: r, av, if content = [] then none else some content⟩, rest) := by
  by_cases hc : content = []
  · simp only [eciTree, hc, ne_eq, not_true_eq_false, if_false, oidNode, List.cons_append, List.nil_append, Der.encode, encodeList,
      Fits, FitsList, and_true] at hF ⊢
    simp only [encContentInfoUnpack, rdSeq_tlv, rdOid_tlv, hA, ok_bind, pure_eq_ok, hF, hb, if_true]
  · simp only [eciTree, hc, ne_eq, not_false_eq_true, if_true, if_false, oidNode, List.cons_append, List.nil_append, Der.encode, encodeList,
      Fits, FitsList, and_true] at hF ⊢
    simp only [encContentInfoUnpack, rdSeq_tlv, rdOid_tlv, rdOctets_tag, wf_c0p, hA, ok_bind, map_ok, pure_eq_ok, hF, hb,
      List.append_eq_nil_iff, tlv_ne_nil, false_and, if_false]

theorem recipientInfos_single (x : Bytes) (ri : KekRi) (h : recipientInfoUnpack x = .ok (ri, [])) (hx : x ≠ []) :
    recipientInfosUnpack x.length x = .ok [ri] := by
  cases x with
  | nil => exact absurd rfl hx
  | cons y ys => simp only [List.length_cons, recipientInfosUnpack, h, ok_bind, pure_eq_ok]

theorem envelopedDataUnpack_encode (ri eci : Der) (riv : KekRi) (eciv : EncContentInfo)
    (hri : Fits ri → ∀ rest, recipientInfoUnpack (ri.encode ++ rest) = .ok (riv, rest)) (hrine : ri.encode ≠ [])
    (heci : Fits eci → ∀ rest, encContentInfoUnpack (eci.encode ++ rest) = .ok (eciv, rest))
    (hF : Fits (envTree ri eci)) (rest : Bytes) :
    envelopedDataUnpack ((envTree ri eci).encode ++ rest) = .ok ⟨2, [riv], eciv⟩ := by
  have hs := recipientInfos_single (ri.encode ++ []) riv (hri hF.envKids.1 []) (by rwa [List.append_nil])
  simp only [envTree, intNode, Der.encode, encodeList, Fits, FitsList, and_true] at hF ⊢
  simp only [envelopedDataUnpack, rdSeq_tlv, rdInt_tlv, rdSet_tlv, hs, heci, ok_bind, pure_eq_ok, hF, ne_eq, not_true_eq_false, if_false]

theorem contentInfo_encode (a b : Nat) (r : List Nat) (content : Der) (trailing : Bytes) (hb : b ≤ 39)
    (hF : Fits (ciTree a b r content)) :
    ∃ h, readHeader ((ciTree a b r content).encode ++ trailing) = .ok h ∧ h.tagLength + h.length = ((ciTree a b r content).encode).length ∧
      contentInfoUnpack (((ciTree a b r content).encode ++ trailing).take (h.tagLength + h.length)) h = .ok (a :: b :: r, content.encode) := by
  simp only [ciTree, oidNode, Der.encode, encodeList, Fits, FitsList, and_true] at hF ⊢
  refine ⟨_, readHeader_tlv tSEQ wf_seq _ trailing hF.1, (tlv_length _ _).symm, ?_⟩
  rw [← tlv_length, List.take_left, ← List.append_nil (tlv tSEQ _)]
  simp only [contentInfoUnpack, rdSeq_hdr, rdOid_tlv, rdOctets_tag, wf_c0c, ok_bind, pure_eq_ok, hF, hb]
  rw [List.append_nil]

open DpapiNg.Gkdi

/-- what a blob must satisfy for `pack` to be injective on it (all of it holds for every blob `ncrypt_protect_secret` builds) -/
structure Blob.WF (b : Blob) : Prop where
  keyId : b.keyId.WF
  sid : utf8Valid b.sid = true
  cekParams : ParamsWF b.encCekParams
  contentParams : ParamsWF b.encContentParams

end DpapiNg.Blob
