/-
  The hand-written `pack` models of `_pkcs7.py` / `_blob.py` ARE the interpretation of the ASN.1 writer programs
  that the translator regenerates from /repo's source on every run
  (obligations `Gen.WProg*_eq : Gen.WProg* = <program below>`, closed by `rfl`).
  Field names are the Python ones.  `call0` … `call2` resolve `self.f.pack(w)` by the annotated class of `f`, one nesting level each
  (`RecipientInfo` is `KEKRecipientInfo`, the only implemented choice, as in the model).
  Python's truthiness of an optional bytes field (`Blob.truthy`, `orEmpty`, and their image under `optBytes`) is treated here,
  once, for the interpreters and for the layout proofs (Proofs/BlobLayout).
-/
import DpapiNg.Model.WProg
import DpapiNg.Model.Blob
import DpapiNg.Proofs.Norm
namespace DpapiNg.Blob
open DpapiNg DpapiNg.Asn1 DpapiNg.WProg

def optBytes : Option Bytes → Val
  | some b => .bytes b
  | none => .none

def algIdProg : List Op := [.seq none [.oid "algorithm", .ifTruthy "parameters" [.raw "parameters"]]]
def otherAttrProg : List Op := [.seq none [.oid "key_attr_id", .ifTruthy "key_attr" [.raw "key_attr"]]]
def kekIdProg : List Op :=
  [.seq none [.octets "key_identifier" none, .ifTruthy "date" [.genTime "date"], .ifTruthy "other" [.sub "other" "OtherKeyAttribute"]]]
def kekRiProg : List Op :=
  [.seq (some (ctx 2 true)) [.int "version", .sub "kekid" "KEKIdentifier", .sub "key_encryption_algorithm" "AlgorithmIdentifier",
    .octets "encrypted_key" none]]
def encContentInfoProg : List Op :=
  [.seq none [.oid "content_type", .sub "algorithm" "AlgorithmIdentifier", .ifTruthy "content" [.octets "content" (some (ctx 0 false))]]]
def envelopedDataProg : List Op :=
  [.seq none [.int "version", .setOf [.each "recipient_infos" "RecipientInfo"], .sub "encrypted_content_info" "EncryptedContentInfo"]]
def contentInfoProg : List Op := [.seq none [.oid "content_type", .octets "content" (some (ctx 0 true))]]
def protDescProg : List Op :=
  [.seq none [.oid "type.value", .seq none [.seq none [.seq none [.utf8 "type.name", .utf8 "value"]]]]]

def AlgId.toVal (a : AlgId) : Val := .obj [("algorithm", .oid a.algorithm), ("parameters", optBytes a.parameters)]
def OtherAttr.toVal (o : OtherAttr) : Val := .obj [("key_attr_id", .oid o.keyAttrId), ("key_attr", optBytes o.keyAttr)]
def KekId.toVal (k : KekId) : Val :=
  .obj [("key_identifier", .bytes k.keyIdentifier), ("date", optBytes k.date),
        ("other", match k.other with | some o => o.toVal | none => .none)]
def KekRi.toVal (r : KekRi) : Val :=
  .obj [("version", .int r.version), ("kekid", r.kekid.toVal), ("key_encryption_algorithm", r.alg.toVal),
        ("encrypted_key", .bytes r.encryptedKey)]
def EncContentInfo.toVal (e : EncContentInfo) : Val :=
  .obj [("content_type", .oid e.contentType), ("algorithm", e.alg.toVal), ("content", optBytes e.content)]
def EnvelopedData.toVal (e : EnvelopedData) : Val :=
  .obj [("version", .int e.version), ("recipient_infos", .list (e.recipientInfos.map KekRi.toVal)),
        ("encrypted_content_info", e.encContentInfo.toVal)]

/-- the class table: `self.f.pack(w)` for a field annotated with class `cls` -/
def call0 : String → Val → R Bytes := fun cls v =>
  if cls = "AlgorithmIdentifier" then runOps noCall v algIdProg
  else if cls = "OtherKeyAttribute" then runOps noCall v otherAttrProg
  else .error .typeError
def call1 : String → Val → R Bytes := fun cls v =>
  if cls = "KEKIdentifier" then runOps call0 v kekIdProg else call0 cls v
def call2 : String → Val → R Bytes := fun cls v =>
  if cls = "RecipientInfo" then runOps call1 v kekRiProg
  else if cls = "EncryptedContentInfo" then runOps call1 v encContentInfoProg
  else call1 cls v

-- The evaluation rules of the `interp` set for this interpreter; `id rfl` for the reasons given in Proofs/Norm.lean.
theorem truthy_bytes (b : Bytes) : (Val.bytes b).truthy = !b.isEmpty := id rfl
theorem truthy_none : Val.none.truthy = false := id rfl
theorem truthy_obj (fs : List (String × Val)) : (Val.obj fs).truthy = true := id rfl
theorem OtherAttr.toVal_truthy (o : OtherAttr) : o.toVal.truthy = true := id rfl
theorem Val.field_obj (fs : List (String × Val)) (f : String) : (Val.obj fs).field f = (fs.lookup f).getD .none := id rfl
theorem optBytes_some (b : Bytes) : optBytes (some b) = .bytes b := id rfl
theorem optBytes_none : optBytes none = .none := id rfl
theorem truthy_some (x : Bytes) : truthy (some x) = !x.isEmpty := id rfl
theorem truthy_of_none : truthy none = false := id rfl
theorem truthy_some_ne (x : Bytes) : (truthy (some x) = true) = (x ≠ []) := by cases x <;> simp [truthy]

theorem optBytes_truthy (o : Option Bytes) : (optBytes o).truthy = truthy o := by cases o <;> rfl
/-- Python's `x or r` on an optional bytes field, on either side of `optBytes` -/
theorem optBytes_or (o : Option Bytes) (r : Bytes) :
    (if truthy o = true then optBytes o else .bytes r) = Val.bytes (if truthy o = true then orEmpty o else r) := by
  cases o with
  | none => rfl
  | some b => simp only [truthy_some, optBytes_some, orEmpty, Option.getD]; split <;> rfl
theorem orEmpty_of_truthy (o : Option Bytes) : (if truthy o = true then orEmpty o else []) = orEmpty o := by
  cases o with
  | none => rfl
  | some b => cases b <;> rfl

theorem runOps_cons (c : String → Val → R Bytes) (s : Val) (op : Op) (rest : List Op) :
    runOps c s (op :: rest) = (do let a ← runOp c s op; let b ← runOps c s rest; pure (a ++ b)) := by
  simp only [runOps]

attribute [interp] WProg.runOps WProg.runOp Val.field_obj truthy_bytes truthy_none truthy_obj OtherAttr.toVal_truthy optBytes_some optBytes_none truthy_some truthy_of_none

theorem algIdPack_eq_prog (a : AlgId) : algIdPack a = runOps noCall a.toVal algIdProg := by
  obtain ⟨alg, _ | p⟩ := a <;>
    simp only [algIdPack, algIdProg, AlgId.toVal, wSeq, interp, except_nf, orEmpty]
  refine bind_congr fun o => ?_
  split <;> simp only [List.append_nil]

theorem otherAttrPack_eq_prog (o : OtherAttr) : otherAttrPack o = runOps noCall o.toVal otherAttrProg := by
  obtain ⟨id, _ | p⟩ := o <;>
    simp only [otherAttrPack, otherAttrProg, OtherAttr.toVal, wSeq, interp, except_nf, orEmpty]
  refine bind_congr fun o => ?_
  split <;> simp only [List.append_nil]

theorem call0_alg (a : AlgId) : call0 "AlgorithmIdentifier" a.toVal = algIdPack a := by
  simp only [call0, interp, algIdPack_eq_prog]
theorem call0_other (o : OtherAttr) : call0 "OtherKeyAttribute" o.toVal = otherAttrPack o := by
  simp only [call0, interp, otherAttrPack_eq_prog]

theorem kekIdPack_eq_prog (k : KekId) : kekIdPack k = runOps call0 k.toVal kekIdProg := by
  obtain ⟨ki, _ | date, _ | other⟩ := k <;>
    simp only [kekIdPack, kekIdProg, KekId.toVal, wSeq, interp, except_nf, orEmpty, call0_other]

theorem call1_kekid (k : KekId) : call1 "KEKIdentifier" k.toVal = kekIdPack k := by
  simp only [call1, interp, kekIdPack_eq_prog]
theorem call1_alg (a : AlgId) : call1 "AlgorithmIdentifier" a.toVal = algIdPack a := by
  simp only [call1, interp, call0_alg]

theorem kekRiPack_eq_prog (r : KekRi) : kekRiPack r = runOps call1 r.toVal kekRiProg := by
  simp only [kekRiPack, kekRiProg, KekRi.toVal, interp, except_nf, call1_kekid, call1_alg]

theorem encContentInfoPack_eq_prog (e : EncContentInfo) : encContentInfoPack e = runOps call1 e.toVal encContentInfoProg := by
  obtain ⟨t, a, _ | c⟩ := e <;>
    simp only [encContentInfoPack, encContentInfoProg, EncContentInfo.toVal, wSeq, interp, except_nf, orEmpty, call1_alg]

theorem call2_ri (r : KekRi) : call2 "RecipientInfo" r.toVal = kekRiPack r := by
  simp only [call2, interp, kekRiPack_eq_prog]
theorem call2_eci (e : EncContentInfo) : call2 "EncryptedContentInfo" e.toVal = encContentInfoPack e := by
  simp only [call2, interp, encContentInfoPack_eq_prog]

theorem mapM_call2 (l : List KekRi) : (l.map KekRi.toVal).mapM (call2 "RecipientInfo") = l.mapM kekRiPack := by
  induction l with
  | nil => rfl
  | cons r rest ih => simp only [List.map, List.mapM_cons, call2_ri, ih]

theorem envelopedDataPack_eq_prog (e : EnvelopedData) : envelopedDataPack e = runOps call2 e.toVal envelopedDataProg := by
  simp only [envelopedDataPack, envelopedDataProg, EnvelopedData.toVal, wSeq, wSet, interp, except_nf, call2_eci, mapM_call2]

def contentInfoVal (contentType : List Nat) (content : Bytes) : Val :=
  .obj [("content_type", .oid contentType), ("content", .bytes content)]

theorem contentInfoPack_eq_prog (ct : List Nat) (c : Bytes) :
    contentInfoPack ct c = runOps noCall (contentInfoVal ct c) contentInfoProg := by
  simp only [contentInfoPack, contentInfoProg, contentInfoVal, wSeq, interp, except_nf]

/-- `self.type` is the enum member `ProtectionDescriptorType.SID` (value = the OID, name = "SID") -/
def protDescVal (sidUtf8 : Bytes) : Val :=
  .obj [("type.value", .oid oidSidProtector), ("type.name", .bytes utf8SID), ("value", .bytes sidUtf8)]

theorem protDescPack_eq_prog (sid : Bytes) : protDescPack sid = runOps noCall (protDescVal sid) protDescProg := by
  simp only [protDescPack, protDescProg, protDescVal, wSeq, interp, except_nf]

end DpapiNg.Blob
