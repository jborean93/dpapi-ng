/-
  C05, key layer: `KeyCache._get_key`, `compute_l1_key` / `compute_l2_key`, `compute_kek`, the two
  decrypt primitives and `_decrypt_blob` are `Safe` — under the stated behaviour of the
  third-party primitives (`CryptoSafe`: they raise nothing but InvalidTag / InvalidUnwrap / ValueError).
-/
import DpapiNg.Proofs.SafeBlob
import DpapiNg.Proofs.PowMod
import DpapiNg.Proofs.Cache
import DpapiNg.Proofs.SecDesc
import DpapiNg.Model.Client
namespace DpapiNg

/-- what C05 assumes of `cryptography`: its primitives fail only with deliberate error types -/
structure CryptoSafe (C : Crypto) : Prop where
  keyUnwrap : ∀ k w, Safe (C.keyUnwrap k w)
  gcmDecrypt : ∀ k n c, Safe (C.gcmDecrypt k n c)
  ecExchange : ∀ cv d x y, Safe (C.ecExchange cv d x y)

namespace Gkdi
open DpapiNg.Asn1

@[safe] theorem safe_kdfParamsUnpack (v : Bytes) : Safe (kdfParamsUnpack v) := by
  simp only [kdfParamsUnpack, safe]

@[safe] theorem safe_hashOfName (n : Bytes) : Safe (hashOfName n) := by
  simp only [hashOfName, safe]

@[safe] theorem safe_kdfContext (g : Bytes) (l0 l1 l2 : Int) : Safe (kdfContext g l0 l1 l2) := by
  unfold kdfContext
  split
  · simp
  · rename_i h
    obtain ⟨a0, a1, b0, b1, c0, c1⟩ := Decidable.not_not.mp h
    simp only [Py.toBytesLESigned4_ok l0 ⟨a0, a1⟩, Py.toBytesLESigned4_ok l1 ⟨b0, b1⟩, Py.toBytesLESigned4_ok l2 ⟨c0, c1⟩,
      ok_bind, safe]

@[safe] theorem safe_computeL1 (C : Crypto) (sd rk : Bytes) (l0 : Nat) (key : Bytes) (alg : Hash) : Safe (computeL1 C sd rk l0 key alg) := by
  simp only [computeL1, safe]

@[safe] theorem safe_computeL2 (C : Crypto) (alg : Hash) (r1 r2 : Nat) (rk : Envelope) : Safe (computeL2 C alg r1 r2 rk) := by
  simp only [computeL2, safe]
  intro _ _
  split <;> simp only [safe]

@[safe] theorem safe_ffcKeyUnpack (v : Bytes) : Safe (ffcKeyUnpack v) := by
  simp only [ffcKeyUnpack, safe]

@[safe] theorem safe_ffcParamsUnpack (v : Bytes) : Safe (ffcParamsUnpack v) := by
  simp only [ffcParamsUnpack, safe]

@[safe] theorem safe_ecdhKeyUnpack (v : Bytes) : Safe (ecdhKeyUnpack v) := by
  unfold ecdhKeyUnpack
  split <;> simp only [safe]

/-- a successfully unpacked FFC key has a modulus that fits its declared width (the length guard of `FFCDHKey.unpack` makes the slices full-width; DESIGN 8, D13) -/
theorem ffcKeyUnpack_fieldOrder_lt {v : Bytes} (hb : IsBytes v) : Post (ffcKeyUnpack v) fun k => k.fieldOrder < 256 ^ k.keyLength := by
  simp only [ffcKeyUnpack, post]
  refine fun _ _ => Nat.lt_of_lt_of_le (Py.fromBE_lt _ (isBytes_sliceN hb _ _)) (Nat.pow_le_pow_right (by omega) ?_)
  simp only [Py.sliceN, List.length_drop, List.length_take]; omega

theorem safe_computeKek (C : Crypto) (hC : CryptoSafe C) (alg : Hash) (sa sp priv pub : Bytes) (hb : IsBytes pub) :
    Safe (computeKek C alg sa sp priv pub) := by
  have key : ∀ k, ffcKeyUnpack pub = .ok k → ¬ k.fieldOrder = 0 →
      Safe (Py.toBytesBE (Py.powMod k.publicKey (Py.fromBE priv) k.fieldOrder) k.keyLength) := fun k hk h0 => by
    rw [Py.toBytesBE_ok _ _ (Nat.lt_trans (Py.powMod_lt _ _ _ (by omega)) (ffcKeyUnpack_fieldOrder_lt hb k hk))]
    exact safe_ok _
  -- the set leaves the one step that is not safe on its face, the conversion of the shared secret, once per way of reaching
  -- it (root-key parameters present or not), each under the guards passed on the way
  simp only [computeKek, safe, hC.ecExchange]
  exact fun _ k hk => ⟨fun _ _ _ _ _ => key k hk, fun _ _ => key k hk⟩

theorem safe_getKek (C : Crypto) (hC : CryptoSafe C) (e : Envelope) (kid : KeyId) (hb : IsBytes kid.keyInfo) : Safe (getKek C e kid) := by
  -- what is left is `compute_kek` at the end of the public-key path, under the ten guards and bindings in front of it
  simp only [getKek, safe]
  exact fun _ _ _ _ _ _ _ _ _ _ => safe_computeKek C hC _ _ _ _ _ hb

end Gkdi

namespace Client
open DpapiNg.Gkdi DpapiNg.Blob DpapiNg.Asn1

@[safe] theorem safe_targetSdOf (sid : Bytes) : Safe (targetSdOf sid) := by
  refine safe_map fun e h => ?_
  rw [SecDesc.parseSidStr_error _ e h]; trivial

theorem safe_cekDecrypt (C : Crypto) (hC : CryptoSafe C) (alg : List Nat) (kek v : Bytes) : Safe (cekDecrypt C alg kek v) := by
  simp only [cekDecrypt, hC.keyUnwrap, safe]

@[safe] theorem safe_gcmIv (p : Option Bytes) : Safe (gcmIv p) := by
  simp only [gcmIv, safe]

theorem safe_contentDecrypt (C : Crypto) (hC : CryptoSafe C) (alg : List Nat) (p : Option Bytes) (cek v : Bytes) :
    Safe (contentDecrypt C alg p cek v) := by
  simp only [contentDecrypt, hC.gcmDecrypt, safe]

theorem safe_decryptBlob (C : Crypto) (hC : CryptoSafe C) (b : Blob) (key : Envelope) (hb : IsBytes b.keyId.keyInfo) :
    Safe (decryptBlob C b key) := by
  simp only [decryptBlob, safe_getKek C hC _ _ hb, safe_cekDecrypt C hC, safe_contentDecrypt C hC, safe]

@[safe] theorem safe_rootEnv (C : Crypto) (r : RootKey) (k : CKey) : Safe (rootEnv C r k) := by
  simp only [rootEnv, safe]

/-- the last step of both halves: `_decrypt_blob` on a blob that was unpacked from octets -/
theorem ofR_decryptBlob_deliberate (C : Crypto) (hC : CryptoSafe C) (b : Blob) (env : Envelope) (hki : IsBytes b.keyId.keyInfo)
    (e : PyErr) (ho : ofR (decryptBlob C b env) = .error e) : Deliberate e := by
  cases hd : decryptBlob C b env with
  | ok q => simp [hd, ofR] at ho
  | error e' =>
    simp only [hd, ofR, Outcome.error.injEq] at ho
    subst ho
    exact safe_decryptBlob C hC b env hki e' hd

/-- `_get_key` fails only where deriving the root-key seed fails, i.e. deliberately -/
theorem cacheGet_fail_deliberate (C : Crypto) (s : CState) (sd rk : Bytes) (l0 l1 l2 : Nat) (e : PyErr) (s' : CState)
    (h : cacheGet C s sd rk l0 l1 l2 = (.fail e, s')) : Deliberate e := by
  unfold cacheGet at h
  rcases Cache.getKey_cases rkOf (rootEnv C) s (rk, sd, l0) ⟨l1, l2⟩ with
    ⟨_, hk, _⟩ | ⟨-, ⟨_, _, hk, _⟩ | ⟨r, _, hk, _, herr⟩ | ⟨hk, _⟩⟩ <;> rw [hk] at h <;> cases h
  exact safe_rootEnv C r _ e herr

end Client
end DpapiNg
