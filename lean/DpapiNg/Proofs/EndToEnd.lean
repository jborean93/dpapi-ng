/-
  The protect path of the public function taken apart — what `_get_protection_gke_from_cache` returns, what a second
  `_get_key` sees, when `ncrypt_protect_secret` returns bytes — for the API-level theorems of C01 (round trip through one
  KeyCache) and C09Cache (the blob names the current interval).
-/
import DpapiNg.Proofs.ClientCore
import DpapiNg.Proofs.Cache
namespace DpapiNg.Client
open DpapiNg DpapiNg.Gkdi DpapiNg.Blob

/-- the envelope `_get_protection_gke_from_cache` hands to `_encrypt_blob`: the cached one narrowed to (l1, l2) -/
def narrowed (rkEnv : Envelope) (rk : Bytes) (l0 l1 l2 : Nat) (l2Key : Bytes) : Envelope :=
  ⟨rkEnv.version, rkEnv.flags, l0, l1, l2, rk, rkEnv.kdfAlgorithm, rkEnv.kdfParameters, rkEnv.secretAlgorithm,
    rkEnv.secretParameters, rkEnv.privateKeyLength, rkEnv.publicKeyLength, rkEnv.domainName, rkEnv.forestName, [], l2Key⟩

/-- the root envelope is a seed envelope for the L0 it was asked for -/
theorem rootEnv_eq_ok {C : Crypto} {r : RootKey} {k : CKey} {pl : Envelope} (h : rootEnv C r k = .ok pl) :
    pl.isPublicKey = false ∧ pl.l0 = k.2.2 := by
  unfold rootEnv at h
  obtain ⟨_, _, h⟩ := bind_ok_iff.mp h
  obtain ⟨_, _, h⟩ := bind_ok_iff.mp h
  obtain ⟨_, _, h⟩ := bind_ok_iff.mp h
  cases h
  exact ⟨by simp [Envelope.isPublicKey], rfl⟩

/-- a cache hit leaves the hit envelope as the seed, and asking again for a covered position returns it unchanged; if every
    seed of the cache was a seed-key envelope of its own L0, so is the one returned (it is one of them or the root envelope) -/
theorem cacheGet_again {C : Crypto} {s s' : CState} {sd rk : Bytes} {l0 l1 l2 : Nat} {e : Cache.Env Envelope} (hr : l1 ≤ 31 ∧ l2 ≤ 31)
    (h : cacheGet C s sd rk l0 l1 l2 = (.hit e, s')) :
    s'.seeds (rk, sd, l0) = some e ∧ Cache.Pos.le ⟨l1, l2⟩ e.pos ∧ cacheGet C s' sd rk l0 l1 l2 = (.hit e, s') ∧
    ((∀ k e', s.seeds k = some e' → e'.payload.isPublicKey = false ∧ e'.payload.l0 = k.2.2) → e.payload.isPublicKey = false ∧ e.payload.l0 = l0) := by
  unfold cacheGet at h ⊢
  rcases Cache.getKey_cases rkOf (rootEnv C) s (rk, sd, l0) ⟨l1, l2⟩ with
    ⟨e', hk, he', hle⟩ | ⟨-, ⟨r, pl, hk, _, hpl⟩ | ⟨_, _, hk, _⟩ | ⟨hk, _⟩⟩ <;> rw [hk] at h <;> cases h
  · exact ⟨he', hle, Cache.getKey_of_covered he' hle, fun hall => hall _ _ he'⟩
  · exact ⟨Cache.setSeed_same .., Cache.Pos.le_top (p := ⟨l1, l2⟩) hr, Cache.getKey_of_covered (Cache.setSeed_same ..) (Cache.Pos.le_top (p := ⟨l1, l2⟩) hr),
      fun _ => rootEnv_eq_ok hpl⟩

/-- what `_get_protection_gke_from_cache` returns when it returns an envelope -/
theorem protectionGke_some {C : Crypto} {s s' : CState} {sd rk : Bytes} {timeNs : Nat} {env : Envelope}
    (h : protectionGke C s sd rk timeNs = (.ok (some env), s')) :
    ∃ l0 l1 l2 envC hn alg l2Key, (l0, l1, l2) = Time.indices (Time.currentTime timeNs) ∧ l1 ≤ 31 ∧ l2 ≤ 31 ∧
      cacheGet C s sd rk l0 l1 l2 = (.hit envC, s') ∧
      kdfParamsUnpack envC.payload.kdfParameters = .ok hn ∧ hashOfName hn = .ok alg ∧
      computeL2 C alg l1 l2 envC.payload = .ok l2Key ∧ env = narrowed envC.payload rk l0 l1 l2 l2Key := by
  unfold protectionGke at h
  simp only [] at h
  obtain ⟨hr1, hr2⟩ := Time.pos_inRange (Time.currentTime timeNs)
  simp only at hr1 hr2
  generalize hl0 : Time.l0 (Time.currentTime timeNs) = l0 at h
  generalize hl1 : Time.l1 (Time.currentTime timeNs) = l1 at h hr1
  generalize hl2 : Time.l2 (Time.currentTime timeNs) = l2 at h hr2
  generalize hcg : cacheGet C s sd rk l0 l1 l2 = cg at h
  obtain ⟨got, sg⟩ := cg
  cases got with
  | fail e => simp at h
  | miss => simp at h
  | hit envC =>
    simp only [Prod.mk.injEq] at h
    obtain ⟨hr, hsg⟩ := h
    subst hsg
    obtain ⟨hn, h1, hr⟩ := bind_ok_iff.mp hr
    obtain ⟨alg, h2, hr⟩ := bind_ok_iff.mp hr
    obtain ⟨l2Key, h3, hr⟩ := bind_ok_iff.mp hr
    simp only [pure_eq_ok, Except.ok.injEq, Option.some.injEq] at hr
    exact ⟨l0, l1, l2, envC, hn, alg, l2Key, hl0 ▸ hl1 ▸ hl2 ▸ rfl, hr1, hr2, hcg, h1, h2, h3, hr.symm⟩

/-- a finished computation is a result or an error, never a request to the DC -/
theorem ofR_ne_needsNetwork (r : R Bytes) (req : KeyRequest) : ofR r ≠ .needsNetwork req := by cases r <;> nofun

/-- `ncrypt_protect_secret` naming a root key returns bytes only on this path: the SID parses, the cache yields an envelope for
    the current interval, `_encrypt_blob` succeeds and the blob packs; a seed envelope is stored back -/
theorem protectBegin_done {C : Crypto} {s s' : CState} {data sid rk out : Bytes} {domain : Option Bytes} {timeNs : Nat} {d : Draws}
    (h : protectBegin C s data sid (some rk) domain timeNs d = (.done out, s')) :
    ∃ sd env sg b, targetSdOf sid = .ok sd ∧ protectionGke C s sd rk timeNs = (.ok (some env), sg) ∧
      encryptBlobValue C data env sid d = .ok b ∧ blobPack b true = .ok out ∧
      s' = if env.isPublicKey then sg else cacheStore sg sd env := by
  unfold protectBegin at h
  cases hsd : targetSdOf sid with
  | error e => rw [hsd] at h; cases h
  | ok sd =>
    simp only [hsd] at h
    rcases hg : protectionGke C s sd rk timeNs with ⟨g, sg⟩
    rw [hg] at h
    rcases g with e | _ | env
    · cases h
    · cases h
    · simp only [Prod.mk.injEq] at h
      cases he : encryptBlob C data env sid d with
      | error e => rw [he] at h; cases h.1
      | ok bytes =>
        rw [he] at h
        cases h.1
        obtain ⟨b, hb, hp⟩ := bind_ok_iff.mp he
        exact ⟨sd, env, sg, b, rfl, hg, hb, hp, h.2.symm⟩

end DpapiNg.Client
