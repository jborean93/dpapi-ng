/-
  The independent MS-DTYP parsers (Spec/Dtyp.lean) invert the library's encoders: SID, ACE, ACL and the self-relative
  descriptor, for every well-formed owner, group and ACE list.  Fixed-width fields are written out as digit lists so that
  the parsers' patterns match, and read back with `Py.fromLE_toLE` / `Py.fromBE_toBE`.  At the end, `sid_to_bytes` on a string
  by cases (`parseSidStr_cases`).
-/
import DpapiNg.Spec.Dtyp
import DpapiNg.Proofs.PyLemmas
namespace DpapiNg.SecDesc
open DpapiNg DpapiNg.Spec.Dtyp

theorem toLE4 (x : Nat) : Py.toLE x 4 = [x % 256, x / 256 % 256, x / 256 / 256 % 256, x / 256 / 256 / 256 % 256] := rfl

theorem toLE2 (x : Nat) : Py.toLE x 2 = [x % 256, x / 256 % 256] := rfl

theorem toBE6 (x : Nat) : Py.toBE x 6 = [x / 256 / 256 / 256 / 256 / 256 % 256, x / 256 / 256 / 256 / 256 % 256,
    x / 256 / 256 / 256 % 256, x / 256 / 256 % 256, x / 256 % 256, x % 256] := rfl

theorem fromLE4 (x : Nat) (h : x < 2 ^ 32) :
    Py.fromLE [x % 256, x / 256 % 256, x / 256 / 256 % 256, x / 256 / 256 / 256 % 256] = x :=
  Py.fromLE_toLE x 4 h

theorem fromLE2 (x : Nat) (h : x < 2 ^ 16) : Py.fromLE [x % 256, x / 256 % 256] = x := Py.fromLE_toLE x 2 h

theorem readSubs_ok (subs : List Nat) (h : ∀ x ∈ subs, x < 2 ^ 32) (rest : Bytes) :
    readSubs subs.length ((subs.map (Py.toLE · 4)).flatten ++ rest) = some (subs, rest) := by
  induction subs with
  | nil => rfl
  | cons x xs ih =>
    have ih' := ih fun y hy => h y (List.mem_cons_of_mem _ hy)
    rw [List.map_cons, List.flatten_cons, toLE4 x]
    simp only [List.length_cons, List.cons_append, List.nil_append, readSubs, ih', Option.map_some,
      fromLE4 x (h x (List.mem_cons_self ..))]

theorem sidBytes_length (s : Sid) : (sidBytes s).length = 8 + 4 * s.subs.length := by
  simp only [sidBytes, List.length_append, List.length_cons, List.length_nil, Py.toBE_length]
  have : ((s.subs.map (Py.toLE · 4)).flatten).length = 4 * s.subs.length := by
    induction s.subs with
    | nil => rfl
    | cons x xs ih => simp only [List.map_cons, List.flatten_cons, List.length_append, Py.toLE_length, ih, List.length_cons]; omega
  omega

/-- the independent MS-DTYP SID parser inverts `sidBytes` -/
theorem parseSid_sidBytes (s : Sid) (h : s.WF) (rest : Bytes) :
    parseSid (sidBytes s ++ rest) = some (s, rest) := by
  obtain ⟨hr, ha, h1, h15, hs⟩ := h
  have hbe := Py.fromBE_toBE s.auth 6 ha
  rw [toBE6] at hbe
  simp only [sidBytes, toBE6, List.cons_append, List.nil_append, parseSid, readSubs_ok s.subs hs rest,
    Option.map_some, hbe]

theorem aceBytes_length (sid : Bytes) (mask : Nat) : (aceBytes sid mask).length = 8 + sid.length := by
  simp only [aceBytes, List.length_append, List.length_cons, List.length_nil, Py.toLE_length]

theorem parseAce_aceBytes (s : Sid) (h : s.WF) (mask : Nat) (hm : mask < 2 ^ 32) (rest : Bytes) :
    parseAce (aceBytes (sidBytes s) mask ++ rest) = some (⟨0, 0, mask, s⟩, rest) := by
  have hlen := sidBytes_length s
  have h15 : s.subs.length ≤ 15 := h.2.2.2.1
  simp only [aceBytes, toLE2, toLE4, List.cons_append, List.nil_append, parseAce,
    parseSid_sidBytes s h rest, List.length_append, Nat.add_sub_cancel, fromLE2 _ (show 8 + (sidBytes s).length < 2 ^ 16 by omega),
    fromLE4 _ hm, if_true]

/-- a list of ACCESS_ALLOWED_ACEs as the library writes them, and what the MS-DTYP parser reads back -/
theorem parseAces_aceBytes (as : List (Sid × Nat)) (h : ∀ a ∈ as, a.1.WF ∧ a.2 < 2 ^ 32) (rest : Bytes) :
    parseAces as.length ((as.map fun a => aceBytes (sidBytes a.1) a.2).flatten ++ rest) = some (as.map fun a => ⟨0, 0, a.2, a.1⟩, rest) := by
  induction as with
  | nil => rfl
  | cons a as ih =>
    have ⟨hw, hm⟩ := h a (List.mem_cons_self ..)
    simp only [List.length_cons, List.map_cons, List.flatten_cons, List.append_assoc, parseAces,
      parseAce_aceBytes a.1 hw a.2 hm, ih fun b hb => h b (List.mem_cons_of_mem _ hb), Option.map_some]

/-- The independent ACL parser inverts `aclBytes` on every ACE list the ACE parser can read back. -/
theorem parseAcl_aclBytes (aces : List Bytes) (A : List Ace) (rest : Bytes)
    (hA : parseAces aces.length (aces.flatten ++ rest) = some (A, rest))
    (hn : aces.length < 2 ^ 16) (hl : 8 + aces.flatten.length < 2 ^ 16) :
    parseAcl (aclBytes aces ++ rest) = some (A, rest) := by
  simp only [aclBytes, toLE2, List.cons_append, List.nil_append, parseAcl, fromLE2 _ hn, hA,
    List.length_append, Nat.add_sub_cancel, fromLE2 _ hl, if_true]
  rfl

/-- dropping past a 20-byte header written out cell by cell -/
theorem drop20 (x0 x1 x2 x3 x4 x5 x6 x7 x8 x9 x10 x11 x12 x13 x14 x15 x16 x17 x18 x19 : Nat) (t : Bytes) (k : Nat) :
    (x0 :: x1 :: x2 :: x3 :: x4 :: x5 :: x6 :: x7 :: x8 :: x9 :: x10 :: x11 :: x12 :: x13 :: x14 :: x15 :: x16 :: x17 :: x18 :: x19 :: t).drop (20 + k)
      = t.drop k := by
  rw [← List.drop_drop]; rfl

/-- The independent SECURITY_DESCRIPTOR parser inverts `sdBytes` for every owner, group and (non-empty) DACL that the ACL
    parser reads back: control = SELF_RELATIVE | DACL_PRESENT, no SACL, and all offsets are where the parser looks. -/
theorem parseSd_sdBytes (o g : Sid) (ho : o.WF) (hg : g.WF) (dacl : List Bytes) (A : List Ace) (hne : dacl.isEmpty = false)
    (hA : ∀ rest, parseAcl (aclBytes dacl ++ rest) = some (A, rest))
    (hl : 20 + (aclBytes dacl).length + (sidBytes o).length < 2 ^ 32) :
    parseSd (sdBytes (sidBytes o) (sidBytes g) dacl) = some ⟨0x8004, o, g, none, some A⟩ := by
  have hpo := parseSid_sidBytes o ho (sidBytes g)
  have hpg := parseSid_sidBytes g hg []
  rw [List.append_nil] at hpg
  unfold sdBytes
  simp only [hne, Bool.false_eq_true, if_false]
  -- from here on the DACL is opaque: only its length and `hA` matter
  generalize aclBytes dacl = D at hA hl ⊢
  simp only [toLE2, toLE4, List.cons_append, List.nil_append]
  unfold parseSd
  simp only [fromLE2 (32768 + 4) (by decide), fromLE4 (20 + D.length) (by omega),
    fromLE4 (20 + D.length + (sidBytes o).length) (by omega), fromLE4 0 (by decide), fromLE4 20 (by decide)]
  have g1 : ¬ (32772 / 32768 % 2 ≠ 1) := by decide
  have g3 : ¬ ((32772 / 16 % 2 = 1) ≠ ((0 : Nat) ≠ 0)) := by decide
  have g4 : ¬ (20 + D.length < 20 ∨ 20 + D.length + (sidBytes o).length < 20) := by omega
  simp only [g1, g3, g4, if_false]
  -- the parser's two `drop`s: past the 20-octet header to the DACL, past header and DACL to the owner
  rw [drop20, Nat.add_assoc 20, drop20, List.append_assoc, List.drop_left, ← List.append_assoc,
    List.drop_left' List.length_append, hpo, hpg]
  simp only [List.drop_succ_cons, List.drop_zero, List.append_assoc, hA]
  simp

/-- `sid_to_bytes` by cases: `ValueError`, or the string splits at the dashes into `S`, revision, authority and sub-authorities
    that match the grammar and are in range, and the SID is their decimal values -/
theorem parseSidStr_cases (str : List Char) :
    parseSidStr str = .error .valueError ∨
    ∃ x r a subs, splitDash str = x :: r :: a :: subs ∧ grammarOk (x :: r :: a :: subs) = true ∧ decVal a < 2 ^ 48 ∧
      (∀ p ∈ subs, decVal p < 2 ^ 32) ∧ parseSidStr str = .ok ⟨decVal r, decVal a, subs.map decVal⟩ := by
  unfold parseSidStr
  by_cases hg : grammarOk (splitDash str) = true
  · simp only [hg, not_true_eq_false, if_false]
    split
    · rename_i x r a subs heq
      by_cases ha : decVal a ≥ 2 ^ 48
      · exact .inl (if_pos ha)
      · by_cases hs : subs.any (fun p => decVal p ≥ 2 ^ 32) = true
        · exact .inl (by rw [if_neg ha, if_pos hs])
        · refine .inr ⟨x, r, a, subs, heq, heq ▸ hg, by omega, fun p hp => ?_, by rw [if_neg ha, if_neg hs]⟩
          exact Nat.lt_of_not_le fun h => hs (List.any_eq_true.mpr ⟨p, hp, decide_eq_true h⟩)
    · exact .inl rfl
  · exact .inl (if_pos hg)

/-- whatever `sid_to_bytes` rejects, it rejects with `ValueError` -/
theorem parseSidStr_error (str : List Char) (e : PyErr) (h : parseSidStr str = .error e) : e = .valueError := by
  rcases parseSidStr_cases str with h' | ⟨_, _, _, _, _, _, _, _, h'⟩ <;> rw [h'] at h <;> cases h
  rfl

end DpapiNg.SecDesc
