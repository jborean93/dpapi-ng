/-
  C11 — MS-GKDI structures and GetKey stubs have exactly the specified byte layout.
  Each codec is a straight run of fixed-offset fields, so each round trip is one pass of the `wire` set over pack and unpack
  (set up for these structures in Proofs/GkdiRt.lean).
-/
import DpapiNg.Proofs.GkdiRt
namespace DpapiNg.C11
open DpapiNg DpapiNg.Gkdi

/-- fixed-width big-endian integers keep their leading zero bytes: width exactly `k`, value recovered -/
theorem fixedWidth_roundtrip (n k : Nat) (h : n < 256 ^ k) :
    Py.toBytesBE (n : Int) k = .ok (Py.toBE n k) ∧ (Py.toBE n k).length = k ∧ Py.fromBE (Py.toBE n k) = n :=
  ⟨Py.toBytesBE_ok n k h, Py.toBE_length n k, Py.fromBE_toBE n k h⟩

theorem kdfParams_roundtrip (name : Bytes) (hv : utf16Valid name = true) (hl : name.length + 2 < 2 ^ 32) :
    (kdfParamsPack name).bind kdfParamsUnpack = .ok name := by
  simp only [kdfParamsPack, kdfParamsUnpack, wire, except_nf, hl, ne_eq, not_true_eq_false, or_self]
  rw [Py.slice_lit _ 16 _ 16 (16 + name.length) rfl (by omega)]
  simp only [wire, hv]

theorem ffcParams_roundtrip (p : FfcParams) (hk : 12 + p.keyLength + p.keyLength < 2 ^ 32)
    (hf : p.fieldOrder < 256 ^ p.keyLength) (hg : p.generator < 256 ^ p.keyLength) :
    (ffcParamsPack p).bind ffcParamsUnpack = .ok p := by
  have hk32 : p.keyLength < 2 ^ 32 := by omega
  simp only [ffcParamsPack, ffcParamsUnpack, wire, except_nf, hk, hk32, hf, hg, ne_eq, not_true_eq_false]

theorem ffcKey_roundtrip (k : FfcKey) (hk : k.keyLength < 2 ^ 32) (hf : k.fieldOrder < 256 ^ k.keyLength)
    (hg : k.generator < 256 ^ k.keyLength) (hp : k.publicKey < 256 ^ k.keyLength) :
    (ffcKeyPack k).bind ffcKeyUnpack = .ok k := ffcKey_rt k hk hf hg hp

theorem ecdhKey_roundtrip (k : EcdhKey) (hk : k.keyLength < 2 ^ 32) (hx : k.x < 256 ^ k.keyLength) (hy : k.y < 256 ^ k.keyLength) :
    (ecdhKeyPack k).bind ecdhKeyUnpack = .ok k := by
  simp only [ecdhKeyPack, ecdhKeyUnpack, wire, except_nf, hk, hx, hy]

theorem keyId_roundtrip (k : KeyId) (h : k.WF) : (keyIdPack k).bind keyIdUnpack = .ok k := keyId_rt k h

theorem envelope_roundtrip (e : Envelope) (h : e.WF) : (envelopePack e).bind envelopeUnpack = .ok e := by
  simp only [envelopePack, envelopeUnpack, wire, except_nf, h.version, h.flags, h.l0, h.l1, h.l2, h.rk, h.kdfAlg.1, h.kdfAlg.2, h.kdfPar,
    h.secAlg.1, h.secAlg.2, h.secPar, h.priv, h.pub, h.domain.1, h.domain.2, h.forest.1, h.forest.2, h.l1Key, h.l2Key,
    uuidOf, ne_eq, not_true_eq_false]

theorem getKey_roundtrip (g : GetKey) (h : g.WF) : (getKeyPack g).bind getKeyUnpack = .ok g := by
  rw [getKeyPack_eq g h]
  obtain ⟨hsd, hrk, h0, h1, h2⟩ := h
  obtain ⟨sd, rk, l0, l1, l2⟩ := g
  simp only at hsd hrk
  -- the decoder reads the 32-bit count out of the 64-bit conformance
  have h8 : Py.toLE sd.length 8 = Py.toLE sd.length 4 ++ Py.toLE (sd.length / 256 ^ 4) 4 := Py.toLE_add sd.length 4 4
  cases rk with
  | none =>
    simp only [getKeyUnpack, idsPart, rkPart, h8, wire, except_nf, hsd, Py.fromLESigned4 _ h0, Py.fromLESigned4 _ h1,
      Py.fromLESigned4 _ h2]
  | some id =>
    have ne : ¬ ([0, 0, 2, 0, 0, 0, 0, 0] : Bytes) = Py.zeros 8 := by decide
    simp only [getKeyUnpack, idsPart, rkPart, h8, wire, except_nf, hsd, hrk id rfl, ne, uuidOf, Py.fromLESigned4 _ h0,
      Py.fromLESigned4 _ h1, Py.fromLESigned4 _ h2]

/-- The request stub is the NDR64 layout for every SD length and either pointer form: the 32-bit
    count padded to 8, the 64-bit conformance, the bytes, zero padding to the next 8-byte boundary
    (the [unique] pointer is 8-aligned from the start of the stub), the referent (+ GUID), three LONGs. -/
theorem getKey_layout (g : GetKey) (h : g.WF) :
    ∃ pad, getKeyPack g = .ok (Py.toLE g.targetSd.length 8 ++ Py.toLE g.targetSd.length 8 ++ g.targetSd ++ pad
        ++ rkPart g.rootKeyId ++ idsPart g) ∧
      pad = Py.zeros pad.length ∧ pad.length < 8 ∧ (16 + g.targetSd.length + pad.length) % 8 = 0 ∧
      (Py.toLE g.targetSd.length 8).take 4 = Py.toLE g.targetSd.length 4 ∧ (Py.toLE g.targetSd.length 8).drop 4 = Py.zeros 4 := by
  refine ⟨Py.zeros (Py.negMod g.targetSd.length 8), getKeyPack_eq g h, by simp, ?_, ?_, ?_, ?_⟩
  · simp only [Py.zeros_length]; exact Py.negMod_lt _ 8 (by omega)
  · simp only [Py.zeros_length]
    have := Py.negMod_aligned g.targetSd.length 8 (by omega)
    omega
  · rw [Py.toLE_add g.targetSd.length 4 4]; simp
  · rw [Py.toLE_add g.targetSd.length 4 4]
    have hz : g.targetSd.length / 256 ^ 4 = 0 := by
      have : (256 : Nat) ^ 4 = 4294967296 := by decide
      rw [this]; exact Nat.div_eq_of_lt (by have := h.sd; omega)
    simp [hz]; decide

/-- The response decoder extracts the envelope from the NDR64 reply for every envelope length
    (whatever the referent id and whatever alignment padding follows the bytes). -/
theorem unpackResponse_ndr64 (e : Envelope) (h : e.WF) (ref mc pad : Bytes) (href : ref.length = 8) (hmc : mc.length = 8) :
    ∃ b, envelopePack e = .ok b ∧
      (b.length < 2 ^ 32 →
        getKeyUnpackResponse (Py.toLE b.length 4 ++ Py.zeros 4 ++ ref ++ mc ++ b ++ pad ++ Py.toLE 0 4) = .ok e) := by
  obtain ⟨b, hb, hrt⟩ := bind_ok_iff.mp (envelope_roundtrip e h)
  exact ⟨b, hb, fun hlen => unpackResponse_ok b ref mc pad e hlen href hmc hrt⟩

/-- A non-zero HRESULT is an error, never an envelope. -/
theorem unpackResponse_hresult (body : Bytes) (hr : Nat) (h0 : hr ≠ 0) (h : hr < 2 ^ 32) :
    getKeyUnpackResponse (body ++ Py.toLE hr 4) = .error .valueError := by
  unfold getKeyUnpackResponse
  rw [Py.sliceFrom_neg _ _ (-4) (by simp) (by simp)]
  simp only [wire, h, h0, ne_eq, not_false_eq_true]

-- non-vacuity: concrete well-formed values
example : (⟨1, 2, 361, 17, 13, List.replicate 16 7, u16 "SP800_108_CTR_HMAC", [1, 2, 3], u16 "DH", [], 512, 2048,
    u16 "domain.test", u16 "", List.replicate 64 1, []⟩ : Envelope).WF := by
  constructor <;> first | decide +kernel | (constructor <;> decide +kernel)
example : (⟨[1, 2, 3, 4, 5], some (List.replicate 16 9), -1, -1, -1⟩ : GetKey).WF := by
  constructor <;> first | decide | (intro id h; cases h; decide) | omega

end DpapiNg.C11
