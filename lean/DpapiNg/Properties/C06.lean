/-
  C06 — Emitted blobs are canonical CMS in Windows' layout; encode/decode are inverse.
  The writers and readers are treated production by production in Proofs/BlobLayout and Proofs/BlobRt; the theorems here
  put the productions together.

  `Spec/Cms.lean` is the specification: an RFC 5652 value tree (`Der`) and its X.690 DER encoding
  (`Der.encode`: identifier octets, *minimal* definite length, contents — `Asn1.tlv`, the subject of C07).  The
  model of `DPAPINGBlob.pack` (imperative nested writers) is proven equal to that encoding, and the
  model of `DPAPINGBlob.unpack` (cursor-based reader) is proven to invert it.
-/
import DpapiNg.Proofs.BlobRt
import DpapiNg.Proofs.ClientCore
import DpapiNg.Properties.C07
namespace DpapiNg.C06
open DpapiNg DpapiNg.Asn1 DpapiNg.Blob DpapiNg.Gkdi DpapiNg.Spec.Cms DpapiNg.Client

/-- Layout: whatever `DPAPINGBlob.pack` emits is exactly the DER encoding of
    ContentInfo{envelopedData, [0] EnvelopedData{2, SET{[2] KEKRecipientInfo{4, KEKIdentifier{keyId,
    OtherKeyAttribute{microsoft-software, protection descriptor}}, alg, encCek}}, EncryptedContentInfo{data, alg, [0] content?}}}
    followed — in the trailing layout only — by the ciphertext. -/
theorem blob_layout (b : Blob) (kid : Bytes) (a1 b1 : Nat) (r1 : List Nat) (a2 b2 : Nat) (r2 : List Nat) (inEnv : Bool)
    (hk : keyIdPack b.keyId = .ok kid)
    (h1 : b.encCekAlg = a1 :: b1 :: r1) (ha1 : a1 ≤ 2) (hb1 : b1 ≤ 39)
    (h2 : b.encContentAlg = a2 :: b2 :: r2) (ha2 : a2 ≤ 2) (hb2 : b2 ≤ 39) :
    blobPack b inEnv = .ok ((blobTree kid b a1 b1 r1 a2 b2 r2 inEnv).encode ++ (if inEnv then [] else b.encContent)) :=
  blobPack_eq_spec b kid a1 b1 r1 a2 b2 r2 inEnv hk h1 ha1 hb1 h2 ha2 hb2

/-- decode(encode(x)) = x for every well-formed blob value, in both layouts. -/
theorem unpack_pack (b : Blob) (a1 b1 : Nat) (r1 : List Nat) (a2 b2 : Nat) (r2 : List Nat) (inEnv : Bool)
    (hwf : b.WF)
    (h1 : b.encCekAlg = a1 :: b1 :: r1) (ha1 : a1 ≤ 2) (hb1 : b1 ≤ 39)
    (h2 : b.encContentAlg = a2 :: b2 :: r2) (ha2 : a2 ≤ 2) (hb2 : b2 ≤ 39)
    (hlen : ∀ kid, keyIdPack b.keyId = .ok kid → ((blobTree kid b a1 b1 r1 a2 b2 r2 inEnv).encode).length < 256 ^ 127) :
    (blobPack b inEnv).bind blobUnpack = .ok b := by
  obtain ⟨kid, hkp, hk⟩ := bind_ok_iff.mp (keyId_rt b.keyId hwf.keyId)
  have hF := fits_of_lt _ (hlen kid hkp)
  rw [blobPack_eq_spec b kid a1 b1 r1 a2 b2 r2 inEnv hkp h1 ha1 hb1 h2 ha2 hb2, exceptBind_eq, ok_bind]
  rw [blobTree_eq] at hF ⊢
  generalize hcontent : (if inEnv then b.encContent else []) = content at hF ⊢
  generalize htrail : (if inEnv then [] else b.encContent) = trailing
  -- each decoder on the encoding of its production, innermost first; `Fits` of the whole tree is handed down
  have eEnv := of_append_nil <| envelopedDataUnpack_encode _ _ _ _
    (recipientInfoUnpack_encode 4 _ _ _ _ b.encCek (kekIdUnpack_encode kid _ _ _ (protDescTree b.sid) (by decide) (tlv_ne_nil _ _))
      (algIdUnpack_encode a1 b1 r1 b.encCekParams hb1 hwf.cekParams))
    (tlv_ne_nil _ _)
    (eciUnpack_encode _ _ _ _ _ content (by decide) (algIdUnpack_encode a2 b2 r2 b.encContentParams hb2 hwf.contentParams))
    hF.ciContent
  have ePd := of_append_nil <| protDescUnpack_append b.sid hwf.sid hF.ciContent.envKids.1.kekRiKids.1.kekIdAttr
  obtain ⟨h, hh, hn, hci⟩ := contentInfo_encode _ _ _ _ trailing (by decide) hF
  simp only [blobUnpack, hh, hci, eEnv, hk, ePd, ok_bind, pure_eq_ok, orEmpty, Option.getD_some,
    oidEnvelopedData, oidMicrosoftSoftware, ne_eq, not_true_eq_false, if_false]
  rw [hn, List.drop_left]
  -- the ciphertext is the content of the envelope if that is non-empty, the trailing bytes otherwise
  have hsel : (if truthy (if content = [] then none else some content) = true then
      (if content = [] then none else some content : Option Bytes).getD [] else trailing) = b.encContent := by
    subst hcontent htrail
    cases inEnv <;> by_cases hc : b.encContent = [] <;> simp [truthy, hc]
  rw [hsel, ← h1, ← h2]

/-- Decoding an emitted blob and re-encoding it yields identical bytes. -/
theorem pack_unpack_pack (b : Blob) (a1 b1 : Nat) (r1 : List Nat) (a2 b2 : Nat) (r2 : List Nat) (inEnv : Bool) (bytes : Bytes)
    (hwf : b.WF)
    (h1 : b.encCekAlg = a1 :: b1 :: r1) (ha1 : a1 ≤ 2) (hb1 : b1 ≤ 39)
    (h2 : b.encContentAlg = a2 :: b2 :: r2) (ha2 : a2 ≤ 2) (hb2 : b2 ≤ 39)
    (hlen : ∀ kid, keyIdPack b.keyId = .ok kid → ((blobTree kid b a1 b1 r1 a2 b2 r2 inEnv).encode).length < 256 ^ 127)
    (hp : blobPack b inEnv = .ok bytes) :
    (blobUnpack bytes).bind (fun b' => blobPack b' inEnv) = .ok bytes := by
  have h := unpack_pack b a1 b1 r1 a2 b2 r2 inEnv hwf h1 ha1 hb1 h2 ha2 hb2 hlen
  rw [hp, exceptBind_eq, ok_bind] at h
  rw [h, exceptBind_eq, ok_bind]; exact hp

/-- The protection descriptor round-trips for every UTF-8 SID string. -/
theorem protDesc_roundtrip (sid : Bytes) (hv : utf8Valid sid = true) (hlen : ((protDescTree sid).encode).length < 256 ^ 127) :
    (protDescPack sid).bind protDescUnpack = .ok sid := by
  rw [protDescPack_eq, exceptBind_eq, ok_bind]; exact protDescUnpack_encode sid hv hlen

/-- Every node of the specification tree is identifier ++ minimal length ++ contents; the length octets are
    the unique minimal DER form (C07.lengthOctets_minimal), so the emitted blob is DER, not merely BER. -/
theorem encode_minimal (t : Tag) (kids : List Der) (c : Bytes) :
    (Der.cons t kids).encode = identifierOctets t ++ lengthOctets (encodeList kids).length ++ encodeList kids ∧
    (Der.prim t c).encode = identifierOctets t ++ lengthOctets c.length ++ c ∧
    (∀ n, n < 128 → lengthOctets n = [n]) ∧
    (∀ n, 128 ≤ n → ∃ ds, lengthOctets n = (ds.length + 128) :: ds ∧ Py.fromBE ds = n ∧ ds.head? ≠ some 0 ∧ ds ≠ []) :=
  ⟨by rw [Der.encode, tlv], by rw [Der.encode, tlv], fun n => (C07.lengthOctets_minimal n).1, fun n => (C07.lengthOctets_minimal n).2⟩

/-- What `ncrypt_protect_secret` emits: AES256-wrap without parameters, AES256-GCM whose parameters are
    DER `SEQUENCE { OCTET STRING nonce, INTEGER 16 }`, the ciphertext inside the envelope, versions 2 and 4. -/
theorem protect_layout (C : Crypto) (data : Bytes) (key : Envelope) (sid : Bytes) (d : Draws) (bytes : Bytes)
    (h : encryptBlob C data key sid d = .ok bytes) :
    ∃ b kid, keyIdPack b.keyId = .ok kid ∧
      bytes = (blobTree kid b 2 16 [840, 1, 101, 3, 4, 1, 45] 2 16 [840, 1, 101, 3, 4, 1, 46] true).encode ∧
      b.encCekParams = none ∧ b.sid = sid ∧
      b.encContentParams = some (seq [.prim tOCTET d.iv, intNode 16]).encode := by
  unfold encryptBlob at h
  obtain ⟨b, hb, hp⟩ := bind_ok_iff.mp h
  obtain ⟨params, _, ec, _, kid0, ek, hpar, _, _, _, _, rfl⟩ := encryptBlobValue_eq_ok hb
  have hparams : params = (seq [.prim tOCTET d.iv, intNode 16]).encode := by
    rw [gcmParams_eq] at hpar
    cases hpar
    simp only [seq, intNode, Der.encode, encodeList, List.append_nil]
  cases hk : keyIdPack kid0 with
  | error e =>
    unfold blobPack at hp
    rw [hk] at hp
    cases hp
  | ok kid =>
    refine ⟨⟨kid0, sid, ek, oidAes256Wrap, none, ec, oidAes256Gcm, some params⟩, kid, hk, ?_, rfl, rfl, by rw [hparams]⟩
    have := blob_layout ⟨kid0, sid, ek, oidAes256Wrap, none, ec, oidAes256Gcm, some params⟩ kid 2 16 _ 2 16 _ true hk rfl (by omega) (by omega) rfl (by omega) (by omega)
    rw [this] at hp
    simp only [if_true, List.append_nil] at hp
    cases hp; rfl

-- non-vacuity: a concrete well-formed blob value satisfies the premises of `unpack_pack`
example : ParamsWF none ∧ ParamsWF (some [5, 0]) ∧ utf8Valid [83, 45, 49, 45, 53] = true := by
  refine ⟨?_, ?_, by decide +kernel⟩ <;> simp [ParamsWF]

end DpapiNg.C06
