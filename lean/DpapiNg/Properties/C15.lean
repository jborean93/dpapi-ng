/-
  C15 — bind/auth handshake relays tokens faithfully and fails closed.
  The provider is a script of (token, complete-afterwards) legs and the server a script of replies;
  all statements are by induction along the loop, i.e. on the provider script: any number of legs.
-/
import DpapiNg.Proofs.RpcClient
namespace DpapiNg.C15
open DpapiNg DpapiNg.Rpc DpapiNg.RpcClient

/-- tokens carried by the alter_context PDUs among a list of events -/
def alterTokens (ev : List Event) : List Bytes :=
  ev.filterMap fun e => if e.sentType = 14 then e.sentToken else none

/-- every event the loop adds is an alter_context (14) or a step that sent nothing (255) -/
def OnlyAlter (ev : List Event) : Prop := ∀ e ∈ ev, e.sentType = 14 ∨ e.sentType = 255

/-- what the events added by a run of the loop satisfy: only alter_contexts (or silent steps), carrying a prefix of the
    script's tokens, none empty -/
def Sent (script : ProviderScript) (added : List Event) : Prop :=
  OnlyAlter added ∧ ∃ n, n ≤ script.length ∧ alterTokens added = (script.take n).map (·.1) ∧ ∀ t ∈ alterTokens added, t ≠ []

theorem Sent.nil (script : ProviderScript) : Sent script [] :=
  ⟨nofun, 0, Nat.zero_le _, rfl, nofun⟩

/-- a step that sends nothing -/
theorem Sent.silent (script : ProviderScript) (f : Nat) (c : List Nat) (x : Option Bytes) : Sent script [⟨255, f, none, c, x⟩] :=
  ⟨fun _ h => .inr (List.mem_singleton.mp h ▸ rfl), 0, Nat.zero_le _, rfl, nofun⟩

/-- one more leg in front: an alter_context with the script's next token -/
theorem Sent.cons {script : ProviderScript} {added : List Event} (tok : Bytes) (done : Bool) (f : Nat) (c : List Nat) (x : Option Bytes)
    (htok : tok ≠ []) (h : Sent script added) : Sent ((tok, done) :: script) (⟨14, f, some tok, c, x⟩ :: added) := by
  obtain ⟨h1, n, hn, h2, h3⟩ := h
  refine ⟨fun e he => ?_, n + 1, Nat.succ_le_succ hn, congrArg (tok :: ·) h2, fun t ht => ?_⟩
  · rcases List.mem_cons.mp he with rfl | he
    · exact .inl rfl
    · exact h1 e he
  · rcases List.mem_cons.mp ht with rfl | ht
    · exact htok
    · exact h3 t ht

/-- The alter_context loop sends the provider's tokens exactly once each and in order: the tokens of the
    alter_context PDUs it adds are a prefix of the script's tokens, all non-empty, and nothing else is sent. -/
theorem tokens_sent (a : Auth) (script : ProviderScript) (complete : Bool) (inTok : Option Bytes) (fc : List ContextElement)
    (sh : Bool) (server : List Bytes) (ev : List Event) (ack : Pdu) :
    ∃ added, (alterLoop a script complete inTok fc sh server ev ack).events = ev ++ added ∧ OnlyAlter added ∧
      ∃ n, n ≤ script.length ∧ alterTokens added = (script.take n).map (·.1) ∧ ∀ t ∈ alterTokens added, t ≠ [] := by
  -- the ways one pass of the loop goes: complete; script exhausted; empty token; exchange fails; ack rejected; one more leg
  fun_induction alterLoop a script complete inTok fc sh server ev ack with
  | case1 => exact ⟨[], (List.append_nil _).symm, Sent.nil _⟩
  | case2 => exact ⟨_, rfl, Sent.silent ..⟩
  | case3 => exact ⟨_, rfl, Sent.silent ..⟩
  | case4 tok done script _ _ _ _ _ _ htok => exact ⟨_, rfl, Sent.cons tok done _ _ _ htok (Sent.nil _)⟩
  | case5 tok done script _ _ _ _ _ _ htok => exact ⟨_, rfl, Sent.cons tok done _ _ _ htok (Sent.nil _)⟩
  | case6 tok done script _ _ _ _ ev _ htok _ _ _ _ _ _ _ _ _ ih =>
    obtain ⟨added, h1, h2⟩ := ih
    exact ⟨_ :: added, by rw [h1, List.append_assoc]; rfl, Sent.cons tok done _ _ _ htok h2⟩

/-- The loop stops when the security context is complete: nothing more is sent and the bind_ack is returned. -/
theorem stops_when_complete (a : Auth) (script : ProviderScript) (inTok : Option Bytes) (fc : List ContextElement) (sh : Bool)
    (server : List Bytes) (ev : List Event) (ack : Pdu) :
    alterLoop a script true inTok fc sh server ev ack = ⟨ev, sh, .ok ack⟩ := by
  cases script <;> simp [alterLoop]

/-- A rejection at any exchange surfaces as an error: if the server's reply to an alter_context is a
    bind_nak, a fault, an unexpected PDU type, or the connection is closed (`exchange` fails), the
    handshake result is that error — nothing further is sent. -/
theorem rejections_surface (a : Auth) (tok : Bytes) (done : Bool) (script : ProviderScript) (inTok : Option Bytes)
    (fc : List ContextElement) (sh : Bool) (server : List Bytes) (ev : List Event) (ack : Pdu) (err : PyErr) (htok : tok ≠ [])
    (hx : exchange (some a) sh (createAlterContext fc (trailerOf a.provider tok) sh) .alterContextResp server = .error err) :
    (alterLoop a ((tok, done) :: script) false inTok fc sh server ev ack).outcome = .error err ∧
    (alterLoop a ((tok, done) :: script) false inTok fc sh server ev ack).events.length = ev.length + 1 := by
  simp [alterLoop, htok, hx]

/-- what `_process_response` turns into an error during binding: bind_nak, fault, and any PDU that is
    not of the expected kind -/
theorem unexpected_is_error (auth : Option Auth) (sign : Bool) (resp : Bytes) (h : Header) (ex : Expect) (p : Pdu)
    (hd : pduUnpack resp = .ok p) (hbad : ex.matches p.body = false) :
    processResponse auth sign resp h ex none = .error .valueError := by
  simp only [processResponse_eq, openReply_none, hd, except_nf, accept, hbad, Bool.false_eq_true, false_and, if_false]

/-- Header signing stays on exactly while every ack advertised PFC_SUPPORT_HEADER_SIGN: `_process_bind_ack`
    keeps the flag iff it was on and the ack carries the bit. -/
theorem sign_header_iff (ack : Pdu) (ctxs fc : List ContextElement) (tok : Option Bytes) (sh sh' : Bool)
    (h : processBindAck ack ctxs sh = .ok (fc, tok, sh')) :
    (sh' = true ↔ sh = true ∧ ack.header.packetFlags / 4 % 2 = 1) := by
  rw [(processBindAck_eq_ok h).2]
  split <;> simp [*]

/-- the bind PDU carries the first token and advertises header signing; without authentication neither -/
theorem bind_first_token (ctxs : List ContextElement) (tr : SecTrailer) :
    (createBind ctxs (some tr)).1.secTrailer = some tr ∧ (createBind ctxs (some tr)).2 = true ∧
    (createBind ctxs (some tr)).1.header.packetType = 11 ∧ (createBind ctxs (some tr)).1.header.packetFlags / 4 % 2 = 1 ∧
    (createBind ctxs none).1.secTrailer = none ∧ (createBind ctxs none).2 = false := by
  refine ⟨rfl, rfl, rfl, ?_, rfl, rfl⟩
  show (pfcSupportHeaderSign ||| 1 ||| 2) / 4 % 2 = 1
  decide

/-- the token `_process_bind_ack` hands on is exactly the auth value of the ack's security trailer (none if it has no trailer) -/
theorem ack_token (ack : Pdu) (ctxs fc : List ContextElement) (tok : Option Bytes) (sh sh' : Bool)
    (h : processBindAck ack ctxs sh = .ok (fc, tok, sh')) : tok = ack.secTrailer.map (·.authValue) :=
  (processBindAck_eq_ok h).1

/-- one leg of the loop: the provider is stepped with the token received last (`fedToken` of the event), its output goes out in an
    alter_context, and the NEXT leg is fed the auth value of the alter_context_resp just received — the server's tokens are fed
    back in order, none skipped, none repeated -/
theorem tokens_fed (a : Auth) (tok : Bytes) (done : Bool) (script : ProviderScript) (inTok : Option Bytes) (fc : List ContextElement)
    (sh : Bool) (server server' : List Bytes) (ev : List Event) (ack resp : Pdu) (fc' : List ContextElement) (tok' : Option Bytes) (sh' : Bool)
    (htok : tok ≠ [])
    (hx : exchange (some a) sh (createAlterContext fc (trailerOf a.provider tok) sh) .alterContextResp server = .ok (resp, server'))
    (hp : processBindAck resp fc sh = .ok (fc', tok', sh')) :
    ∃ e : Event, e.sentToken = some tok ∧ e.fedToken = some (inTok.getD []) ∧ e.sentType = 14 ∧
      tok' = resp.secTrailer.map (·.authValue) ∧
      alterLoop a ((tok, done) :: script) false inTok fc sh server ev ack = alterLoop a script done tok' fc sh' server' (ev ++ [e]) ack := by
  refine ⟨⟨14, (createAlterContext fc (trailerOf a.provider tok) sh).header.packetFlags, some tok, fc.map (·.contextId), some (inTok.getD [])⟩,
    rfl, rfl, rfl, ack_token resp fc fc' tok' sh sh' hp, ?_⟩
  simp only [alterLoop, htok, if_false, hx, hp]

/-- the first leg: `bind` steps the provider with no token, sends its output in the bind, and feeds the bind_ack's token to the loop -/
theorem bind_feeds_ack_token (a : Auth) (tok : Bytes) (done : Bool) (script : ProviderScript) (contexts : List ContextElement) (server server' : List Bytes)
    (ack : Pdu) (fc : List ContextElement) (tok' : Option Bytes) (sh' : Bool)
    (hx : exchange (some a) (createBind contexts (some (trailerOf a.provider tok))).2 (createBind contexts (some (trailerOf a.provider tok))).1 .bindAck server = .ok (ack, server'))
    (hp : processBindAck ack contexts (createBind contexts (some (trailerOf a.provider tok))).2 = .ok (fc, tok', sh')) :
    ∃ e : Event, e.sentToken = some tok ∧ e.fedToken = none ∧ e.sentType = 11 ∧ tok' = ack.secTrailer.map (·.authValue) ∧
      bind (some a) ((tok, done) :: script) contexts server = alterLoop a script done tok' fc sh' server' [e] ack := by
  refine ⟨⟨11, (createBind contexts (some (trailerOf a.provider tok))).1.header.packetFlags, some tok, contexts.map (·.contextId), none⟩,
    rfl, rfl, rfl, ack_token ack contexts fc tok' _ sh' hp, ?_⟩
  simp only [RpcClient.bind, hx, hp]

end DpapiNg.C15
