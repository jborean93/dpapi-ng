/-
  C01 — protect then unprotect returns the plaintext, for every input, configuration and time.
  `C : Crypto` is arbitrary subject to the functional laws `C.Laws` (unwrap∘wrap, decrypt∘encrypt,
  ECDH agreement), so the statements hold for every hash / secret agreement / key material.
-/
import DpapiNg.Proofs.ClientCore
import DpapiNg.Properties.C03
import DpapiNg.Proofs.EndToEnd
namespace DpapiNg.C01
open DpapiNg DpapiNg.Gkdi DpapiNg.Blob DpapiNg.Client

/-- `_decrypt_blob ∘ _encrypt_blob = id` whenever the decrypting side derives the same KEK. -/
theorem decrypt_encrypt (C : Crypto) (L : C.Laws) (data : Bytes) (keyS keyR : Envelope) (sid : Bytes) (d : Draws) (b : Blob)
    (hiv : d.iv.length < 2 ^ 32) (henc : encryptBlobValue C data keyS sid d = .ok b)
    (hkek : ∀ kek kid, newKek C keyS d.kekRnd = .ok (kek, kid) → getKek C keyR kid = .ok kek) :
    decryptBlob C b keyR = .ok data := Client.decrypt_encrypt C L data keyS keyR sid d b hiv henc hkek

/-- Nonce mode, any plaintext (empty, block boundaries, ≥ 64 KiB are instances), any seed-key
    envelope on the sending side, any envelope on the receiving side from which the same L2 key
    derives (C02: every conforming envelope covering the position): the plaintext comes back. -/
theorem protect_unprotect_nonce (C : Crypto) (L : C.Laws) (data : Bytes) (keyS keyR : Envelope) (sid : Bytes) (d : Draws) (b : Blob)
    (hiv : d.iv.length < 2 ^ 32) (hs : keyS.isPublicKey = false) (hr : keyR.isPublicKey = false) (hc : C03.SameConfig keyS keyR)
    (hL2 : ∀ alg, computeL2 C alg keyS.l1 keyS.l2 keyR = .ok keyS.l2Key)
    (henc : encryptBlobValue C data keyS sid d = .ok b) : decryptBlob C b keyR = .ok data :=
  decrypt_encrypt C L data keyS keyR sid d b hiv henc
    (fun kek kid hn => C03.kek_agree_nonce C keyS keyR d.kekRnd kek kid hs hr hc hL2 hn)

/-- DH public-key mode: the sender only holds the group public key; the seed holder decrypts.  Both public
    values must be valid (2 ≤ y ≤ p − 2, SP 800-56A) — `compute_kek` rejects degenerate ones (DESIGN 8, D15) —
    and the root key's FFC parameters, when present, name the group of the public key. -/
theorem protect_unprotect_dh (C : Crypto) (L : C.Laws) (data : Bytes) (keyP keyR : Envelope) (sid : Bytes) (d : Draws) (b : Blob)
    (seed : Bytes) (alg : Hash) (kl p g : Nat)
    (hiv : d.iv.length < 2 ^ 32) (hpub : keyP.isPublicKey = true) (hr : keyR.isPublicKey = false) (hc : C03.SameConfig keyP keyR)
    (hsa : keyP.secretAlgorithm = dhName) (hL2 : ∀ a, computeL2 C a keyP.l1 keyP.l2 keyR = .ok seed)
    (hkl : kl < 2 ^ 32) (hp0 : 0 < p) (hpw : p ≤ 256 ^ kl) (hg : g < 256 ^ kl)
    (hgrp : keyP.secretParameters = [] ∨ ∃ q, ffcParamsUnpack keyP.secretParameters = .ok q ∧ q.fieldOrder = p ∧ q.generator = g)
    (hvalid_group : 1 < Py.powMod g (Py.fromBE (C.kdf alg seed kdsServiceLabel (dhName ++ [0, 0]) (Py.ceilDiv8 keyP.privateKeyLength))) p ∧
      Py.powMod g (Py.fromBE (C.kdf alg seed kdsServiceLabel (dhName ++ [0, 0]) (Py.ceilDiv8 keyP.privateKeyLength))) p < p - 1)
    (hvalid_eph : 1 < Py.powMod g (Py.fromBE d.kekRnd) p ∧ Py.powMod g (Py.fromBE d.kekRnd) p < p - 1)
    (hkey : ffcKeyPack ⟨kl, p, g, Py.powMod g
        (Py.fromBE (C.kdf alg seed kdsServiceLabel (dhName ++ [0, 0]) (Py.ceilDiv8 keyP.privateKeyLength))) p⟩ = .ok keyP.l2Key)
    (halg : ∀ n, kdfParamsUnpack keyP.kdfParameters = .ok n → hashOfName n = .ok alg)
    (henc : encryptBlobValue C data keyP sid d = .ok b) : decryptBlob C b keyR = .ok data :=
  decrypt_encrypt C L data keyP keyR sid d b hiv henc
    (fun kek kid hn => C03.kek_agree_dh C keyP keyR d.kekRnd kek seed kid alg kl p g hpub hr hc hsa hL2 hkl hp0 hpw hg hgrp hvalid_group hvalid_eph hkey hn halg)

/-- The GCM parameters the library emits are `SEQUENCE { OCTET STRING nonce, INTEGER 16 }` and the
    nonce is read back from them unchanged. -/
theorem gcm_parameters (iv : Bytes) (h : iv.length < 2 ^ 32) :
    ∃ p, gcmParams iv = .ok p ∧ gcmIv (some p) = .ok iv ∧ p ≠ [] := gcmParams_iv iv h

/-- Protect, then unprotect on the same cache, with the codec premise only for the blob `_encrypt_blob` built (for which
    C06.unpack_pack provides it under size bounds and name validity).  The theorem below asks it of every blob that packs to
    `bytes`, which none can give: `pack` writes absent and empty algorithm parameters alike.  This is the form to build on. -/
theorem protect_then_unprotect (C : Crypto) (L : C.Laws) (s s1 : CState) (data sid rk bytes : Bytes) (domain : Option Bytes)
    (timeNs : Nat) (d : Draws)
    (hiv : d.iv.length < 2 ^ 32)
    (hnp : ∀ k e, s.seeds k = some e → e.payload.isPublicKey = false)
    (hl0 : ∀ k e, s.seeds k = some e → e.payload.l0 = k.2.2)
    (hcodec : ∀ b env, encryptBlobValue C data env sid d = .ok b → blobPack b true = .ok bytes → blobUnpack bytes = .ok b)
    (hp : protectBegin C s data sid (some rk) domain timeNs d = (.done bytes, s1)) :
    ∃ s2, unprotectBegin C s1 bytes = (.done data, s2) := by
  obtain ⟨sd, env, sg, b, hsd, hg, hb, hpk, hs1⟩ := protectBegin_done hp
  obtain ⟨l0, l1, l2, envC, hn, alg, l2Key, _, hr1, hr2, hcg, h1, h2, h3, rfl⟩ := protectionGke_some hg
  obtain ⟨hseed, hle, hagain, hfacts⟩ := cacheGet_again ⟨hr1, hr2⟩ hcg
  obtain ⟨hnpC, hl0C⟩ := hfacts (fun k e' he' => ⟨hnp k e' he', hl0 k e' he'⟩)
  -- `narrowed` copies every field but the position and the keys, so the facts about the cached envelope carry over by `rfl`
  have hnpE : (narrowed envC.payload rk l0 l1 l2 l2Key).isPublicKey = false := hnpC
  -- the protect side did not change the cache any further: the narrowed envelope is not later than the seed
  have hs1' : s1 = sg := by
    rw [hs1, if_neg (by simp [hnpE])]
    rcases Cache.storeKey_cases sg (rk, sd, l0) (envOf (narrowed envC.payload rk l0 l1 l2 l2Key)) with ⟨_, hlater⟩ | ⟨_, hst, _⟩
    · exact absurd (hlater envC hseed) (Cache.Pos.not_lt_of_le hle)
    · exact hst
  subst hs1'
  have hun := hcodec b _ hb hpk
  -- the cached envelope recovers the KEK of a blob made from its narrowed form: both run the same `compute_l2_key`
  have hdec := decrypt_encrypt C L data _ envC.payload sid d b hiv hb
    (fun kek kid hk => C03.kek_agree_nonce_alg C (narrowed envC.payload rk l0 l1 l2 l2Key) envC.payload d.kekRnd kek kid hn alg hnpE hnpC
      ⟨hl0C, rfl, rfl, rfl, rfl, rfl⟩ h1 h2 h3 hk)
  obtain ⟨_, _, _, _, kid, _, _, _, _, hk, _, rfl⟩ := encryptBlobValue_eq_ok hb
  obtain ⟨k1, k2, k3, k4⟩ := newKek_keyId hk
  unfold unprotectBegin
  simp only [hun, hsd, k1, k2, k3, k4, narrowed, hagain, hdec, ofR]
  exact ⟨_, rfl⟩

/-- **Protect, then unprotect on the same cache** (the commonest use of the API), for every plaintext, SID string, clock value,
    random draws and cache state whose seed entries are not public-key envelopes: if `ncrypt_protect_secret(data, sid,
    root_key_identifier=rk, cache=c)` is answered from the cache with `bytes`, then `ncrypt_unprotect_secret(bytes, cache=c)`
    returns `data` without contacting a DC.  `hcodec` is exactly C06.unpack_pack (its premises are size bounds and name validity). -/
theorem protect_then_unprotect_same_cache (C : Crypto) (L : C.Laws) (s s1 : CState) (data sid rk bytes : Bytes) (domain : Option Bytes)
    (timeNs : Nat) (d : Draws)
    (hiv : d.iv.length < 2 ^ 32)
    (hnp : ∀ k e, s.seeds k = some e → e.payload.isPublicKey = false)
    (hl0 : ∀ k e, s.seeds k = some e → e.payload.l0 = k.2.2)
    (hcodec : ∀ b, blobPack b true = .ok bytes → blobUnpack bytes = .ok b)
    (hp : protectBegin C s data sid (some rk) domain timeNs d = (.done bytes, s1)) :
    ∃ s2, unprotectBegin C s1 bytes = (.done data, s2) :=
  protect_then_unprotect C L s s1 data sid rk bytes domain timeNs d hiv hnp hl0 (fun b _ _ => hcodec b) hp

end DpapiNg.C01
