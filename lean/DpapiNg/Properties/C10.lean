/-
  C10 — KeyCache is transparent under any history/interleaving and avoids repeat RPCs.
  All statements are over arbitrary lists of atomic steps (load / get / store / storeBack), i.e.
  every history and every interleaving of concurrently running calls, with no depth bound.
  `State`, `Op`, `step` and `run` are `DpapiNg.Cache.*` (Model/Cache.lean); `run` is a `foldl`, so its `nil` and `cons` cases
  hold by `rfl`.  The lemmas take the section's functions and predicates explicitly (`step_seeds rkOf rootEnv hop k`).
-/
import DpapiNg.Proofs.Cache
import DpapiNg.Properties.C02
namespace DpapiNg.C10
open DpapiNg.Cache

section
variable {K R P RK E : Type} [DecidableEq K] [DecidableEq R]
variable (rkOf : K → R) (rootEnv : RK → K → Except E P)
variable (Genuine : K → Env P → Prop) (RootOk : R → RK → Prop)

/-- every stored envelope is genuine for its key and in range; every loaded root key is a real one -/
def CInv (s : State K R P RK) : Prop :=
  (∀ k e, s.seeds k = some e → Genuine k e ∧ e.pos.InRange) ∧ (∀ r p, s.roots r = some p → RootOk r p)

/-- admissibility of a step in a state: what comes from outside (root keys, DC replies) is genuine;
    what the client stores back is at or before what the cache already holds for that key -/
def OkAt (s : State K R P RK) : Op K R P RK → Prop
  | .load r p => RootOk r p
  | .get _ _ => True
  | .store k e => Genuine k e ∧ e.pos.InRange
  | .storeBack k e => ∃ ex, s.seeds k = some ex ∧ Pos.le e.pos ex.pos

def Admissible (s : State K R P RK) : List (Op K R P RK) → Prop
  | [] => True
  | op :: rest => OkAt Genuine RootOk s op ∧ Admissible (step rkOf rootEnv s op) rest

variable {Genuine RootOk} in
/-- What one admissible step does to the entry of `k`: nothing; or `_get_key` puts the root envelope at `top`
    there; or `_store_key` puts a DC reply there that is later than what it replaces.
    Every one-step fact below (invariant, coverage, monotonicity) is read off this. -/
theorem step_seeds {s : State K R P RK} {op : Op K R P RK} (hop : OkAt Genuine RootOk s op) (k : K) :
    (step rkOf rootEnv s op).seeds k = s.seeds k ∨
    (∃ r pl, (step rkOf rootEnv s op).seeds k = some ⟨Pos.top, pl⟩ ∧ s.roots (rkOf k) = some r ∧ rootEnv r k = .ok pl) ∨
    (∃ g, (step rkOf rootEnv s op).seeds k = some g ∧ (Genuine k g ∧ g.pos.InRange) ∧
      ∀ ex, s.seeds k = some ex → Pos.lt ex.pos g.pos) := by
  cases op with
  | load r p => exact .inl rfl
  | get k' p =>
    dsimp only [step]
    rcases getKey_cases rkOf rootEnv s k' p with ⟨_, hg, _⟩ | ⟨-, ⟨r, pl, hg, hr⟩ | ⟨_, _, hg, _⟩ | ⟨hg, _⟩⟩ <;> rw [hg]
    · exact .inl rfl
    · by_cases hk : k = k'
      · subst hk; exact .inr (.inl ⟨r, pl, setSeed_same .., hr⟩)
      · exact .inl (setSeed_other s _ hk)
    · exact .inl rfl
    · exact .inl rfl
  | store k' e =>
    dsimp only [step]
    rcases storeKey_cases s k' e with ⟨hst, hlater⟩ | ⟨_, hst, _⟩ <;> rw [hst]
    · by_cases hk : k = k'
      · subst hk; exact .inr (.inr ⟨e, setSeed_same .., hop, hlater⟩)
      · exact .inl (setSeed_other s _ hk)
    · exact .inl rfl
  | storeBack k' e =>
    obtain ⟨ex, hex, hle⟩ := hop
    dsimp only [step]
    rcases storeKey_cases s k' e with ⟨_, hlater⟩ | ⟨_, hst, _⟩
    · exact absurd (hlater ex hex) (Pos.not_lt_of_le hle)
    · rw [hst]; exact .inl rfl

/-- root keys are only ever added, by `load` -/
theorem step_roots (s : State K R P RK) (op : Op K R P RK) (r : R) :
    (step rkOf rootEnv s op).roots r = s.roots r ∨ ∃ p, op = .load r p ∧ (step rkOf rootEnv s op).roots r = some p := by
  cases op with
  | load r' p =>
    simp only [step, loadKey]
    by_cases hr : r = r'
    · subst hr; exact .inr ⟨p, rfl, by simp⟩
    · exact .inl (by simp [hr])
  | get k p => exact .inl (by simp only [step, getKey_roots])
  | store k e => exact .inl (by simp only [step, storeKey_roots])
  | storeBack k e => exact .inl (by simp only [step, storeKey_roots])

variable (hroot : ∀ k r pl, RootOk (rkOf k) r → rootEnv r k = .ok pl → Genuine k ⟨Pos.top, pl⟩)

theorem inv_empty : CInv Genuine RootOk (State.empty : State K R P RK) :=
  ⟨fun _ _ h => by simp [State.empty] at h, fun _ _ h => by simp [State.empty] at h⟩

include hroot in
theorem inv_step (s : State K R P RK) (op : Op K R P RK) (h : CInv Genuine RootOk s) (hop : OkAt Genuine RootOk s op) :
    CInv Genuine RootOk (step rkOf rootEnv s op) := by
  refine ⟨fun k e he => ?_, fun r p hp => ?_⟩
  · rcases step_seeds rkOf rootEnv hop k with hsame | ⟨r, pl, hg, hr, hpl⟩ | ⟨g, hg, hgen, _⟩
    · exact h.1 k e (hsame ▸ he)
    · cases hg.symm.trans he
      exact ⟨hroot k r pl (h.2 _ r hr) hpl, Pos.top_inRange⟩
    · cases hg.symm.trans he; exact hgen
  · rcases step_roots rkOf rootEnv s op r with hsame | ⟨p', rfl, hl⟩
    · exact h.2 r p (hsame ▸ hp)
    · cases hl.symm.trans hp; exact hop

include hroot in
/-- the invariant holds after every admissible history / interleaving -/
theorem inv_run (ops : List (Op K R P RK)) (s : State K R P RK) (h : CInv Genuine RootOk s)
    (hops : Admissible rkOf rootEnv Genuine RootOk s ops) : CInv Genuine RootOk (run rkOf rootEnv s ops) := by
  induction ops generalizing s with
  | nil => exact h
  | cons op ops ih =>
    exact ih _ (inv_step rkOf rootEnv Genuine RootOk hroot s op h hops.1) hops.2

omit [DecidableEq R] in
include hroot in
/-- a hit is genuine, in range and covers the request -/
theorem get_hit (s : State K R P RK) (k : K) (p : Pos) (hp : p.InRange) (h : CInv Genuine RootOk s)
    (e : Env P) (hg : (getKey rkOf rootEnv s k p).1 = .hit e) : Pos.le p e.pos ∧ Genuine k e ∧ e.pos.InRange := by
  rcases getKey_cases rkOf rootEnv s k p with ⟨e', hk, he', hle⟩ | ⟨-, ⟨r, pl, hk, hr, hpl⟩ | ⟨_, _, hk, _⟩ | ⟨hk, _⟩⟩ <;>
    rw [hk] at hg <;> cases hg
  · exact ⟨hle, h.1 k _ he'⟩
  · exact ⟨Pos.le_top hp, hroot k r pl (h.2 _ r hr) hpl, Pos.top_inRange⟩

include hroot in
/-- whatever `_get_key` returns covers the request and is genuine: the root-key path replaces an entry that does not cover
    (DESIGN 8, D6) -/
theorem get_covers (s : State K R P RK) (k : K) (p : Pos) (hp : p.InRange) (h : CInv Genuine RootOk s)
    (e : Env P) (hg : (getKey rkOf rootEnv s k p).1 = .hit e) : Pos.le p e.pos ∧ Genuine k e :=
  have ⟨h1, h2, _⟩ := get_hit rkOf rootEnv Genuine RootOk hroot s k p hp h e hg
  ⟨h1, h2⟩

/-- after a hit the cache holds exactly the envelope it returned -/
theorem get_stores (s : State K R P RK) (k : K) (p : Pos) (e : Env P) (hg : (getKey rkOf rootEnv s k p).1 = .hit e) :
    (getKey rkOf rootEnv s k p).2.seeds k = some e := by
  rcases getKey_cases rkOf rootEnv s k p with ⟨_, hk, he', _⟩ | ⟨-, ⟨_, _, hk, _⟩ | ⟨_, _, hk, _⟩ | ⟨hk, _⟩⟩ <;>
    rw [hk] at hg ⊢ <;> cases hg
  · exact he'
  · exact setSeed_same ..

/-- position p of key k is covered: a cached envelope at or after p, or the root key is loaded -/
def Covers (s : State K R P RK) (k : K) (p : Pos) : Prop :=
  (∃ e, s.seeds k = some e ∧ Pos.le p e.pos) ∨ (s.roots (rkOf k)).isSome

theorem covers_step (s : State K R P RK) (op : Op K R P RK) (k : K) (p : Pos) (hp : p.InRange)
    (hop : OkAt Genuine RootOk s op) (h : Covers rkOf s k p) : Covers rkOf (step rkOf rootEnv s op) k p := by
  rcases h with ⟨e, he, hle⟩ | h
  · left
    rcases step_seeds rkOf rootEnv hop k with hsame | ⟨_, _, hg, _⟩ | ⟨g, hg, _, hlater⟩
    · exact ⟨e, hsame ▸ he, hle⟩
    · exact ⟨_, hg, Pos.le_top hp⟩
    · exact ⟨g, hg, Pos.le_trans hle (Pos.le_of_lt (hlater e he))⟩
  · right
    rcases step_roots rkOf rootEnv s op (rkOf k) with hsame | ⟨_, _, hl⟩
    · rw [hsame]; exact h
    · rw [hl]; rfl

/-- every history / interleaving: once covered, always covered -/
theorem covers_run (ops : List (Op K R P RK)) (s : State K R P RK) (k : K) (p : Pos) (hp : p.InRange)
    (hops : Admissible rkOf rootEnv Genuine RootOk s ops) (h : Covers rkOf s k p) :
    Covers rkOf (run rkOf rootEnv s ops) k p := by
  induction ops generalizing s with
  | nil => exact h
  | cons op ops ih => exact ih _ hops.2 (covers_step rkOf rootEnv Genuine RootOk s op k p hp hops.1 h)

/-- … and a covered position never goes back to the DC: `_get_key` does not return `None` -/
theorem no_repeat_rpc (s : State K R P RK) (k : K) (p : Pos) (h : Covers rkOf s k p) :
    (getKey rkOf rootEnv s k p).1 ≠ .miss := by
  rcases getKey_cases rkOf rootEnv s k p with ⟨_, hk, _⟩ | ⟨hno, ⟨_, _, hk, _⟩ | ⟨_, _, hk, _⟩ | ⟨_, hr⟩⟩
  iterate 3 (rw [hk]; nofun)
  · rcases h with ⟨e, he, hle⟩ | h
    · exact absurd hle (hno e he)
    · rw [hr] at h; cases h

/-- a DC reply for position q, once stored, covers every p ≤ q -/
theorem store_covers (s : State K R P RK) (k : K) (e : Env P) (p : Pos) (hle : Pos.le p e.pos) :
    Covers rkOf (step rkOf rootEnv s (.store k e)) k p := by
  left
  dsimp only [step]
  rcases storeKey_cases s k e with ⟨hst, _⟩ | ⟨ex, hst, hex, hle'⟩ <;> rw [hst]
  · exact ⟨e, setSeed_same .., hle⟩
  · exact ⟨ex, hex, Pos.le_trans hle hle'⟩

include hroot in
/-- positions only move forward: what justifies every later `storeBack` of an envelope that is at or
    before something a `get` once returned (`hroot` is part of the statement but not needed for it) -/
theorem pos_monotone (s : State K R P RK) (op : Op K R P RK) (k : K) (e : Env P) (h : CInv Genuine RootOk s)
    (hop : OkAt Genuine RootOk s op) (he : s.seeds k = some e) :
    ∃ e', (step rkOf rootEnv s op).seeds k = some e' ∧ Pos.le e.pos e'.pos := by
  rcases step_seeds rkOf rootEnv hop k with hsame | ⟨_, _, hg, _⟩ | ⟨g, hg, _, hlater⟩
  · exact ⟨e, hsame ▸ he, Pos.le_refl _⟩
  · exact ⟨_, hg, Pos.le_top (h.1 k e he).2⟩
  · exact ⟨g, hg, Pos.le_of_lt (hlater e he)⟩

include hroot in
theorem pos_monotone_run (ops : List (Op K R P RK)) (s : State K R P RK) (k : K) (e : Env P) (h : CInv Genuine RootOk s)
    (hops : Admissible rkOf rootEnv Genuine RootOk s ops) (he : s.seeds k = some e) :
    ∃ e', (run rkOf rootEnv s ops).seeds k = some e' ∧ Pos.le e.pos e'.pos := by
  induction ops generalizing s e with
  | nil => exact ⟨e, he, Pos.le_refl _⟩
  | cons op ops ih =>
    obtain ⟨e1, h1, hle1⟩ := pos_monotone rkOf rootEnv Genuine RootOk hroot s op k e h hops.1 he
    obtain ⟨e2, h2, hle2⟩ := ih _ e1 (inv_step rkOf rootEnv Genuine RootOk hroot s op h hops.1) hops.2 h1
    exact ⟨e2, h2, Pos.le_trans hle1 hle2⟩

include hroot in
/-- an async call's late `_store_key` of an envelope at or before what its own `_get_key` returned is
    admissible after any admissible steps of other calls in between (so its `storeBack` is a no-op) -/
theorem storeBack_admissible (s : State K R P RK) (k : K) (p : Pos) (e0 e : Env P) (between : List (Op K R P RK))
    (h : CInv Genuine RootOk s) (hg : (getKey rkOf rootEnv s k p).1 = .hit e0) (hle : Pos.le e.pos e0.pos)
    (hb : Admissible rkOf rootEnv Genuine RootOk (step rkOf rootEnv s (.get k p)) between) :
    OkAt Genuine RootOk (run rkOf rootEnv (step rkOf rootEnv s (.get k p)) between) (.storeBack k e) := by
  have h1 := inv_step rkOf rootEnv Genuine RootOk hroot s (.get k p) h trivial
  have hs : (step rkOf rootEnv s (.get k p)).seeds k = some e0 := get_stores rkOf rootEnv s k p e0 hg
  obtain ⟨e', he', hle'⟩ := pos_monotone_run rkOf rootEnv Genuine RootOk hroot between _ k e0 h1 hb hs
  exact ⟨e', he', Pos.le_trans hle hle'⟩

end

/-! ### transparency at the key level: payload = (L1 key, L2 key), genuine = conforming to the chain -/
section
open DpapiNg.Chain
variable {K R Key Ctx RK E : Type} [DecidableEq K] [DecidableEq R]
variable (rkOf : K → R) (rootEnv : RK → K → Except E (Key × Key))
variable (kdf : Key → Ctx → Key) (c1 : K → Nat → Ctx) (c2 : K → Nat → Nat → Ctx) (k31 : K → Key)

def chainEnvOf (e : Cache.Env (Key × Key)) : Chain.Env Key := ⟨e.pos.l1, e.pos.l2, e.payload.1, e.payload.2⟩

def GenuineChain (k : K) (e : Cache.Env (Key × Key)) : Prop :=
  Conforming kdf (c1 k) (c2 k) (k31 k) (chainEnvOf e)

variable (RootOk : R → RK → Prop)
variable (hroot : ∀ k r pl, RootOk (rkOf k) r → rootEnv r k = .ok pl → GenuineChain kdf c1 c2 k31 k ⟨Pos.top, pl⟩)

include hroot in
/-- Transparency: after ANY admissible history / interleaving starting from the empty cache, if the
    cache answers a request at all, the L2 key derived from what it returns is the chain key
    `K2 p.l1 p.l2` — the same key a fresh cache (root key or DC reply) would give — after at most 63
    KDF invocations. -/
theorem transparent (ops : List (Op K R (Key × Key) RK)) (k : K) (p : Pos) (hp : p.InRange)
    (hops : Admissible rkOf rootEnv (GenuineChain kdf c1 c2 k31) RootOk State.empty ops)
    (e : Cache.Env (Key × Key)) (hg : (getKey rkOf rootEnv (run rkOf rootEnv State.empty ops) k p).1 = .hit e) :
    computeL2 kdf (c1 k) (c2 k) (chainEnvOf e) p.l1 p.l2 = some (K2 kdf (c1 k) (c2 k) (k31 k) p.l1 p.l2) ∧
    steps (chainEnvOf e) p.l1 p.l2 ≤ 63 := by
  have hinv := inv_run rkOf rootEnv (GenuineChain kdf c1 c2 k31) RootOk hroot ops State.empty
    (inv_empty _ _) hops
  obtain ⟨hle, hgen, hin⟩ := get_hit rkOf rootEnv (GenuineChain kdf c1 c2 k31) RootOk hroot _ k p hp hinv e hg
  refine ⟨C02.computeL2_correct kdf (c1 k) (c2 k) (k31 k) _ hgen p.l1 p.l2 hp.1 hp.2 hle, C02.steps_le _ _ _ ?_⟩
  unfold rejects
  unfold Pos.InRange at hin hp
  unfold Pos.le at hle
  simp only [chainEnvOf]
  omega
end

end DpapiNg.C10
