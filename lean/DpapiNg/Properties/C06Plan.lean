/-
  C06 at the level of the programs REGENERATED from the source: what the regenerated pack plan of `DPAPINGBlob.pack` emits (with every CMS
  object packed by the regenerated ASN.1 writer programs) is the minimal DER encoding of the RFC 5652 tree in Windows' layout, and decoding
  it with the regenerated unpack plan of `DPAPINGBlob.unpack` gives back the blob — corollaries of `C06.blob_layout` / `C06.unpack_pack`
  and of the model = interpretation theorems `Blob.blobPack_eq_plan` / `Blob.blobUnpack_eq_plan`.
-/
import DpapiNg.Properties.C06
import DpapiNg.Proofs.BPlan
import DpapiNg.Proofs.UPlan
namespace DpapiNg.C06
open DpapiNg DpapiNg.Asn1 DpapiNg.Blob DpapiNg.Gkdi DpapiNg.Spec.Cms DpapiNg.Client

theorem plan_layout (b : Blob) (kid : Bytes) (a1 b1 : Nat) (r1 : List Nat) (a2 b2 : Nat) (r2 : List Nat) (inEnv : Bool)
    (hk : keyIdPack b.keyId = .ok kid)
    (h1 : b.encCekAlg = a1 :: b1 :: r1) (ha1 : a1 ≤ 2) (hb1 : b1 ≤ 39)
    (h2 : b.encContentAlg = a2 :: b2 :: r2) (ha2 : a2 ≤ 2) (hb2 : b2 ≤ 39) :
    BPlan.run call3 blobPackPlan (blobEnv b inEnv) =
      .ok ((blobTree kid b a1 b1 r1 a2 b2 r2 inEnv).encode ++ (if inEnv then [] else b.encContent)) := by
  rw [← blobPack_eq_plan]
  exact blob_layout b kid a1 b1 r1 a2 b2 r2 inEnv hk h1 ha1 hb1 h2 ha2 hb2

theorem plan_roundtrip (b : Blob) (a1 b1 : Nat) (r1 : List Nat) (a2 b2 : Nat) (r2 : List Nat) (inEnv : Bool)
    (hwf : b.WF)
    (h1 : b.encCekAlg = a1 :: b1 :: r1) (ha1 : a1 ≤ 2) (hb1 : b1 ≤ 39)
    (h2 : b.encContentAlg = a2 :: b2 :: r2) (ha2 : a2 ≤ 2) (hb2 : b2 ≤ 39)
    (hlen : ∀ kid, keyIdPack b.keyId = .ok kid → ((blobTree kid b a1 b1 r1 a2 b2 r2 inEnv).encode).length < 256 ^ 127) :
    (BPlan.run call3 blobPackPlan (blobEnv b inEnv)).bind (UPlan.run ucall blobUnpackPlan) = .ok (Blob.toVal b) := by
  obtain ⟨w, hp, h⟩ := bind_ok_iff.mp (unpack_pack b a1 b1 r1 a2 b2 r2 inEnv hwf h1 ha1 hb1 h2 ha2 hb2 hlen)
  rw [← blobPack_eq_plan, hp, exceptBind_eq, ok_bind, ← blobUnpack_eq_plan, h]; rfl

end DpapiNg.C06
