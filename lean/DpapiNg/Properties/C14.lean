/-
  C14 — replies reassemble identically under any TCP segmentation; EOF is an error.
  A socket is its list of pending chunks; a `recv(n)` returns the first min(n, |head|) bytes.
  All statements are by induction along the read loop: every partition, any number of chunks,
  splits inside the 16-byte header included.  The loop is specified against the flattened stream by
  take / drop, which is what the async client's `readexactly` does.
-/
import DpapiNg.Model.RpcClient
import DpapiNg.Proofs.Norm
namespace DpapiNg.C14
open DpapiNg DpapiNg.Rpc DpapiNg.RpcClient

/-- Over non-empty chunks the read loop is `readExactly` on the flattened stream: it returns the first `n` bytes, leaves
    chunks that flatten to the rest, and issues at most one `recv` per chunk. -/
theorem readN_flatten (n : Nat) (chunks : List Bytes) (hne : ∀ c ∈ chunks, c ≠ []) (hn : n ≤ chunks.flatten.length) :
    ∃ r k, readN n chunks = .ok (chunks.flatten.take n, r, k) ∧ r.flatten = chunks.flatten.drop n ∧
      k ≤ chunks.length ∧ ∀ c ∈ r, c ≠ [] := by
  fun_induction readN n chunks with
  | case1 chunks => exact ⟨chunks, 0, rfl, rfl, Nat.zero_le _, hne⟩
  | case2 => cases hn
  | case3 => exact absurd rfl (hne [] (List.mem_cons_self ..))
  | case4 n c cs hc hle ih =>
    rw [List.flatten_cons, List.length_append] at hn
    obtain ⟨r, k, h1, h2, h3, h4⟩ := ih (fun x hx => hne x (List.mem_cons_of_mem _ hx)) (by omega)
    refine ⟨r, k + 1, ?_, ?_, Nat.succ_le_succ h3, h4⟩
    · rw [h1, List.flatten_cons, List.take_append, List.take_of_length_le hle]; rfl
    · rw [h2, List.flatten_cons, List.drop_append, List.drop_of_length_le hle, List.nil_append]
  | case5 n c cs hc hgt =>
    have hgt : n + 1 ≤ c.length := by omega
    refine ⟨c.drop (n + 1) :: cs, 1, ?_, ?_, Nat.succ_le_succ (Nat.zero_le _), fun x hx => ?_⟩
    · rw [List.flatten_cons, List.take_append_of_le_length hgt]
    · rw [List.flatten_cons, List.flatten_cons, List.drop_append_of_le_length hgt]
    · rcases List.mem_cons.mp hx with rfl | hx
      · intro h; have := congrArg List.length h; simp at this; omega
      · exact hne x (List.mem_cons_of_mem _ hx)

/-- The read loop returns exactly the first `n` bytes of the stream for EVERY chunking, leaves the rest
    of the stream intact, and issues at most one `recv` per chunk. -/
theorem readN_ok (n : Nat) (chunks : List Bytes) (data rest : Bytes)
    (hne : ∀ c ∈ chunks, c ≠ []) (hflat : chunks.flatten = data ++ rest) (hlen : data.length = n) :
    ∃ r k, readN n chunks = .ok (data, r, k) ∧ r.flatten = rest ∧ k ≤ chunks.length ∧ (∀ c ∈ r, c ≠ []) := by
  have := readN_flatten n chunks hne (by rw [hflat, List.length_append]; omega)
  rwa [hflat, List.take_left' hlen, List.drop_left' hlen] at this

/-- A stream that ends before `n` bytes have arrived is a ConnectionError. -/
theorem readN_eof (n : Nat) (chunks : List Bytes) (hshort : chunks.flatten.length < n) :
    readN n chunks = .error .connectionError := by
  fun_induction readN n chunks with
  | case1 => cases hshort
  | case2 => rfl
  | case3 => rfl
  | case4 n c cs hc hle ih =>
    rw [List.flatten_cons, List.length_append] at hshort
    rw [ih (by omega)]; rfl
  | case5 n c cs hc hgt =>
    rw [List.flatten_cons, List.length_append] at hshort; omega

/-- The loop never spins: whatever happens, it issues at most one `recv` per chunk plus the one
    that observes the closed connection. -/
theorem readNCalls_le (n : Nat) (chunks : List Bytes) : readNCalls n chunks ≤ chunks.length + 1 := by
  fun_induction readNCalls n chunks with
  | case4 n c cs hc hle ih => rw [List.length_cons]; omega
  | _ => exact Nat.le_add_left ..

/-- recv calls and what is left: every call either consumes a chunk or splits the last one it touches -/
theorem readN_calls_rest (n : Nat) (cs : List Bytes) (d : Bytes) (r : List Bytes) (k : Nat)
    (hr : readN n cs = .ok (d, r, k)) : k + r.length ≤ cs.length + 1 := by
  fun_induction readN n cs generalizing d r k with
  | case1 => cases hr; omega
  | case2 => cases hr
  | case3 => cases hr
  | case4 n c cs hc hle ih =>
    obtain ⟨⟨d', r', k'⟩, hrec, hr⟩ := map_ok_iff.mp hr
    cases hr
    have := ih _ _ _ hrec
    rw [List.length_cons]; omega
  | case5 => cases hr; rw [List.length_cons, List.length_cons]; omega

theorem readExactly_ok_iff (n : Nat) (S d r : Bytes) :
    readExactly n S = .ok (d, r) ↔ n ≤ S.length ∧ d = S.take n ∧ r = S.drop n := by
  unfold readExactly; split
  · exact ⟨nofun, fun h => by omega⟩
  · exact ⟨fun h => by cases h; exact ⟨by omega, rfl, rfl⟩, fun ⟨_, h1, h2⟩ => by rw [h1, h2]⟩

/-- Whatever the async client reads off the byte stream, the sync client reads off ANY chunking of it, with at most one
    `recv` per chunk and one more. -/
theorem recvSync_of_async (chunks : List Bytes) (hne : ∀ c ∈ chunks, c ≠ []) (b : Bytes) (h : Header) (rest : Bytes)
    (ha : recvAsync chunks.flatten = .ok (b, h, rest)) :
    ∃ r k, recvSync chunks = .ok (b, h, r, k) ∧ r.flatten = rest ∧ k ≤ chunks.length + 1 := by
  unfold recvAsync at ha
  obtain ⟨⟨hd, S1⟩, h1, ha⟩ := bind_ok_iff.mp ha
  obtain ⟨h', hh, ha⟩ := bind_ok_iff.mp ha
  obtain ⟨hfl, ha⟩ := guard_ok_iff.mp ha
  obtain ⟨⟨body, S2⟩, h2, ha⟩ := bind_ok_iff.mp ha
  cases ha
  obtain ⟨l1, rfl, rfl⟩ := (readExactly_ok_iff ..).mp h1
  obtain ⟨l2, rfl, rfl⟩ := (readExactly_ok_iff ..).mp h2
  obtain ⟨r1, k1, e1, f1, _, ne1⟩ := readN_flatten 16 chunks hne l1
  obtain ⟨r2, k2, e2, f2, le2, _⟩ := readN_flatten (h.fragLen - 16) r1 ne1 (f1 ▸ l2)
  refine ⟨r2, k1 + k2, ?_, f1 ▸ f2, ?_⟩
  · unfold recvSync
    simp only [e1, hh, hfl, e2, f1, if_false, except_nf]
  · have := readN_calls_rest _ _ _ _ _ e1
    omega

/-- Reassembly: for every partition of `reply ++ rest` into non-empty chunks, where `reply` is one framed
    PDU (its header decodes and its frag_len is its length ≥ 16), the sync client reads exactly `reply`,
    leaves `rest` unread, and the async client (readexactly over the same byte stream) reads the same. -/
theorem reassembly (reply rest : Bytes) (chunks : List Bytes) (h : Header)
    (hne : ∀ c ∈ chunks, c ≠ []) (hflat : chunks.flatten = reply ++ rest)
    (hhdr : headerUnpack (reply.take 16) = .ok h) (hfl : h.fragLen = reply.length) (h16 : 16 ≤ reply.length) :
    (∃ r k, recvSync chunks = .ok (reply, h, r, k) ∧ r.flatten = rest ∧ k ≤ chunks.length + 1) ∧
    recvAsync chunks.flatten = .ok (reply, h, rest) := by
  have ha : recvAsync chunks.flatten = .ok (reply, h, rest) := by
    have e1 : readExactly 16 (reply ++ rest) = .ok (reply.take 16, reply.drop 16 ++ rest) :=
      (readExactly_ok_iff ..).mpr ⟨by rw [List.length_append]; omega, (List.take_append_of_le_length h16).symm,
        (List.drop_append_of_le_length h16).symm⟩
    have hl : (reply.drop 16).length = h.fragLen - 16 := by rw [List.length_drop, hfl]
    have e2 : readExactly (h.fragLen - 16) (reply.drop 16 ++ rest) = .ok (reply.drop 16, rest) :=
      (readExactly_ok_iff ..).mpr ⟨by rw [List.length_append]; omega, (List.take_left' hl).symm, (List.drop_left' hl).symm⟩
    have hnot : ¬ h.fragLen < 16 := by omega
    unfold recvAsync
    simp only [hflat, e1, hhdr, hnot, e2, if_false, List.take_append_drop, except_nf]
  exact ⟨recvSync_of_async chunks hne reply h rest ha, ha⟩

/-- EOF before a full PDU is an error for both clients (ConnectionError / IncompleteReadError), never a spin. -/
theorem eof_is_error (chunks : List Bytes) (h : Header) (hne : ∀ c ∈ chunks, c ≠ []) :
    (chunks.flatten.length < 16 → recvSync chunks = .error .connectionError ∧ recvAsync chunks.flatten = .error .incompleteRead) ∧
    (16 ≤ chunks.flatten.length → headerUnpack (chunks.flatten.take 16) = .ok h → 16 ≤ h.fragLen → chunks.flatten.length < h.fragLen →
      recvSync chunks = .error .connectionError ∧ recvAsync chunks.flatten = .error .incompleteRead) := by
  unfold recvSync recvAsync readExactly
  refine ⟨fun hs => ⟨by rw [readN_eof 16 chunks hs]; rfl, by rw [if_pos hs]; rfl⟩, fun h16 hh hf hs => ?_⟩
  obtain ⟨r1, k1, e1, f1, _, _⟩ := readN_flatten 16 chunks hne h16
  have hnot : ¬ h.fragLen < 16 := by omega
  have hshort : (chunks.flatten.drop 16).length < h.fragLen - 16 := by rw [List.length_drop]; omega
  have e2 := readN_eof _ r1 (f1 ▸ hshort)
  constructor
  · simp only [e1, hh, hnot, e2, if_false, except_nf]
  · simp only [show ¬ chunks.flatten.length < 16 by omega, hh, hnot, hshort, if_false, if_true, except_nf]

end DpapiNg.C14
