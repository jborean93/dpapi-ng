/-
  C08 — SID and target security descriptor bytes follow MS-DTYP for every SID.
-/
import DpapiNg.Proofs.SecDesc
namespace DpapiNg.C08
open DpapiNg DpapiNg.SecDesc DpapiNg.Spec.Dtyp

/-- The independent ACL parser inverts the two-ACE DACL the library builds. -/
theorem parseAcl_target (s : Sid) (h : s.WF) (rest : Bytes) :
    parseAcl (aclBytes [aceBytes (sidBytes s) 3, aceBytes (sidBytes everyoneSid) 2] ++ rest)
      = some ([⟨0, 0, 3, s⟩, ⟨0, 0, 2, everyoneSid⟩], rest) := by
  have h15 : s.subs.length ≤ 15 := h.2.2.2.1
  refine parseAcl_aclBytes _ _ rest (parseAces_aceBytes [(s, 3), (everyoneSid, 2)] ?_ rest) (Nat.lt_of_sub_eq_succ rfl) ?_
  · intro a ha
    rcases List.mem_cons.mp ha with rfl | ha
    · exact ⟨h, Nat.lt_of_sub_eq_succ rfl⟩
    · cases List.mem_singleton.mp ha; decide
  · simp only [List.flatten_cons, List.flatten_nil, List.append_nil, List.length_append, aceBytes_length, sidBytes_length]
    have : everyoneSid.subs.length = 1 := rfl
    omega

/-- For every well-formed SID the target security descriptor decodes, with the independent
    MS-DTYP parser, to: SYSTEM owner and group, no SACL, a DACL allowing the SID with mask 3 and
    Everyone with mask 2, control = SELF_RELATIVE | DACL_PRESENT; hence offsets, sizes and counts
    are consistent (the parser checks them). -/
theorem targetSd_layout (s : Sid) (h : s.WF) :
    parseSd (targetSd s) = some ⟨0x8004, systemSid, systemSid, none,
      some [⟨0, 0, 3, s⟩, ⟨0, 0, 2, everyoneSid⟩]⟩ := by
  have h15 : s.subs.length ≤ 15 := h.2.2.2.1
  refine parseSd_sdBytes systemSid systemSid (by decide) (by decide) _ _ rfl (parseAcl_target s h) ?_
  simp only [aclBytes, List.flatten_cons, List.flatten_nil, List.append_nil, List.length_append, List.length_cons, List.length_nil,
    Py.toLE_length, aceBytes_length, sidBytes_length]
  have : everyoneSid.subs.length = 1 := rfl
  have : systemSid.subs.length = 1 := rfl
  omega

/-- Distinct SIDs give distinct bytes (binary SID, hence ACE, hence descriptor). -/
theorem sid_bytes_injective (s₁ s₂ : Sid) (h₁ : s₁.WF) (h₂ : s₂.WF) (h : sidBytes s₁ = sidBytes s₂) : s₁ = s₂ := by
  have a := parseSid_sidBytes s₁ h₁ []
  have b := parseSid_sidBytes s₂ h₂ []
  rw [h] at a; rw [a] at b
  simpa using b

theorem targetSd_injective (s₁ s₂ : Sid) (h₁ : s₁.WF) (h₂ : s₂.WF) (h : targetSd s₁ = targetSd s₂) : s₁ = s₂ := by
  have a := targetSd_layout s₁ h₁
  have b := targetSd_layout s₂ h₂
  rw [h] at a; rw [a] at b
  simpa using b

/-- Whatever string the parser accepts denotes an in-range SID … -/
theorem parseSidStr_wf (str : List Char) (s : Sid) (h : parseSidStr str = .ok s) : s.WF := by
  rcases parseSidStr_cases str with h' | ⟨x, r, a, subs, _, hg, ha, hs, h'⟩ <;> rw [h'] at h <;> cases h
  simp only [grammarOk, Bool.and_eq_true, decide_eq_true_eq] at hg
  obtain ⟨⟨⟨⟨⟨_, hr1⟩, hrd⟩, _⟩, hlo⟩, hhi⟩ := hg
  refine ⟨?_, ha, by simp at hlo ⊢; omega, by simp at hhi ⊢; omega, fun v hv => ?_⟩
  · -- the revision is one ASCII digit
    match r, hr1, hrd with
    | [c], _, hrd =>
      simp only [allDigits, List.isEmpty_cons, Bool.not_false, List.all_cons, List.all_nil, Bool.and_true,
        Bool.true_and, isDigit, Bool.and_eq_true, decide_eq_true_eq] at hrd
      have l1 : 48 ≤ c.toNat := by
        have := hrd.1; rw [Char.le_def, UInt32.le_iff_toNat_le] at this; exact this
      have l2 : c.toNat ≤ 57 := by
        have := hrd.2; rw [Char.le_def, UInt32.le_iff_toNat_le] at this; exact this
      show 0 * 10 + (c.toNat - 48) ≤ 9
      omega
  · obtain ⟨p, hp, rfl⟩ := List.mem_map.mp hv
    exact hs p hp

/-- … and every rejection is a `ValueError` (never a crash, never silent alteration). -/
theorem parseSidStr_rejects (str : List Char) (e : PyErr) (h : parseSidStr str = .error e) : e = .valueError :=
  parseSidStr_error str e h

/-- The near-miss classes the property names are rejected by the grammar. -/
example : parseSidStr "S-1-5-4294967296".toList = .error .valueError := by decide +kernel
example : parseSidStr "S-1-281474976710656-1".toList = .error .valueError := by decide +kernel
example : parseSidStr "S-1-5-18\n".toList = .error .valueError := by decide +kernel
example : parseSidStr "S-1-5".toList = .error .valueError := by decide +kernel
example : parseSidStr "S-1-5-1-2-3-4-5-6-7-8-9-10-11-12-13-14-15-16".toList = .error .valueError := by decide +kernel
example : parseSidStr "S-1-5--18".toList = .error .valueError := by decide +kernel
example : parseSidStr "s-1-5-18".toList = .error .valueError := by decide +kernel
example : parseSidStr "S-1-5-+18".toList = .error .valueError := by decide +kernel
example : parseSidStr "S-10-5-18".toList = .error .valueError := by decide +kernel
-- non-vacuity
example : parseSidStr "S-1-5-21-0-4294967295-1103".toList = .ok ⟨1, 5, [21, 0, 4294967295, 1103]⟩ := by decide +kernel
example : (⟨1, 5, [21, 0, 4294967295, 1103]⟩ : Sid).WF := by decide

end DpapiNg.C08
