/-
  C20 — DC discovery asks the right SRV name and picks the best record.
-/
import DpapiNg.Model.Dns
namespace DpapiNg.C20
open DpapiNg.Dns

/-- the head of a stable sort under a total preorder is below every element of the list -/
theorem head_mergeSort_le {α : Type} {le : α → α → Bool} (htrans : ∀ a b c, le a b → le b c → le a c)
    (htotal : ∀ a b, (le a b || le b a) = true) {l : List α} {r : α} {rest : List α} (h : l.mergeSort le = r :: rest) :
    r ∈ l ∧ ∀ x ∈ l, le r x = true := by
  have hs := List.pairwise_mergeSort htrans htotal l
  rw [h] at hs
  refine ⟨List.mem_mergeSort.1 (h ▸ List.mem_cons_self), fun x hx => ?_⟩
  rcases List.mem_cons.1 (h ▸ List.mem_mergeSort.2 hx) with rfl | hin
  · simpa using htotal x x
  · exact List.rel_of_pairwise_cons hs hin

theorem le_trans (a b c : Srv) : le a b → le b c → le a c := by
  simp only [le, Bool.or_eq_true, decide_eq_true_eq, Bool.and_eq_true]; omega

theorem le_total (a b : Srv) : (le a b || le b a) = true := by
  simp only [le, Bool.or_eq_true, decide_eq_true_eq, Bool.and_eq_true]; omega

/-- The query name is the SRV prefix, followed by `.domain` exactly when a non-empty domain is given. -/
theorem query_name (d : Bytes) (hd : d ≠ []) :
    queryName (some d) = prefix_ ++ [46] ++ d ∧ queryName none = prefix_ ∧ queryName (some []) = prefix_ := by
  simp [queryName, hd]

/-- For every non-empty answer list the result is one of the (stripped) records, has the lowest
    priority and, among those with that priority, the highest weight. -/
theorem pick_best (l : List Srv) (h : l ≠ []) :
    ∃ r ∈ l, pick l = .ok (strip r) ∧
      ∀ x ∈ l, r.priority ≤ x.priority ∧ (x.priority = r.priority → x.weight ≤ r.weight) := by
  unfold pick
  cases hs : (l.map strip).mergeSort le with
  | nil => exact absurd (by simpa using congrArg List.length hs) h
  | cons r0 rest =>
    obtain ⟨hr0, hmin⟩ := head_mergeSort_le le_trans le_total hs
    obtain ⟨r, hr, rfl⟩ := List.mem_map.1 hr0
    refine ⟨r, hr, rfl, fun x hx => ?_⟩
    -- `strip` leaves priority and weight alone
    have : le r x = true := hmin (strip x) (List.mem_map.2 ⟨x, hx, rfl⟩)
    simp only [le, Bool.or_eq_true, decide_eq_true_eq, Bool.and_eq_true] at this
    omega

/-- Order independence: any permutation of the answers yields a record with the same
    (priority, weight) — so "best" does not depend on the order the resolver returns. -/
theorem pick_perm (l₁ l₂ : List Srv) (hp : l₁.Perm l₂) (h : l₁ ≠ []) :
    ∃ r₁ r₂, pick l₁ = .ok r₁ ∧ pick l₂ = .ok r₂ ∧ r₁.priority = r₂.priority ∧ r₁.weight = r₂.weight := by
  have h2 : l₂ ≠ [] := by intro e; subst e; exact h (List.Perm.eq_nil hp)
  obtain ⟨a, ha, hpa, hma⟩ := pick_best l₁ h
  obtain ⟨b, hb, hpb, hmb⟩ := pick_best l₂ h2
  refine ⟨strip a, strip b, hpa, hpb, ?_⟩
  have hab := hma b (hp.mem_iff.2 hb)
  have hba := hmb a (hp.mem_iff.1 ha)
  simp only [strip]; omega

/-- Only the target changes, and only by losing trailing dots. -/
theorem strip_target (r : Srv) :
    (strip r).port = r.port ∧ (strip r).weight = r.weight ∧ (strip r).priority = r.priority ∧
    (strip r).target = Py.rstrip 46 r.target := by simp [strip]

theorem rstrip_dot (s : Bytes) (h : s.getLast? ≠ some 46) : Py.rstrip 46 (s ++ [46]) = s ∧ Py.rstrip 46 s = s := by
  have key : Py.rstrip 46 s = s := by
    unfold Py.rstrip
    cases hs : s.reverse with
    | nil => simp at hs; simp [hs]
    | cons x xs =>
      have : s.getLast? = some x := by
        have := congrArg List.head? hs; simpa [List.head?_reverse] using this
      have hx : ¬ x = 46 := by intro e; rw [this, e] at h; exact h rfl
      simp only [List.dropWhile, hx, decide_false]
      rw [← hs]; simp
  refine ⟨?_, key⟩
  unfold Py.rstrip at key ⊢
  simp only [List.reverse_append, List.reverse_singleton, List.singleton_append, List.dropWhile, decide_true]
  exact key

/-- An empty answer is an error, not a default record. -/
theorem pick_empty : pick [] = .error .indexError := by simp [pick]

-- non-vacuity: the only hypothesis is a non-empty answer list; on a concrete three-record list the
-- theorem pins the (priority, weight) of the result (the driver executes `pick` on such lists)
example : ∃ r, pick [⟨[97,46], 389, 1, 1⟩, ⟨[98,46], 389, 5, 0⟩, ⟨[99], 389, 2, 0⟩] = .ok (strip r) ∧ r.priority = 0 ∧ r.weight = 5 := by
  obtain ⟨r, hr, hp, hm⟩ := pick_best [⟨[97,46], 389, 1, 1⟩, ⟨[98,46], 389, 5, 0⟩, ⟨[99], 389, 2, 0⟩] (by simp)
  refine ⟨r, hp, ?_⟩
  have h1 := hm ⟨[98,46], 389, 5, 0⟩ (by simp)
  have h2 := hm ⟨[99], 389, 2, 0⟩ (by simp)
  simp only [List.mem_cons, List.mem_nil_iff, or_false] at hr
  rcases hr with rfl | rfl | rfl <;> simp_all

end DpapiNg.C20
