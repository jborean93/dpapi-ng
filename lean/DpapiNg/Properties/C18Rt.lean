/-
  C18, the codec half — ept_map requests and replies round-trip through `Model/Epm.lean`: floors, towers (every length
  residue mod 8), entry handle, referents; hence a well-formed reply with status 0 yields the first TCP floor's port.
-/
import DpapiNg.Proofs.RpcWire
import DpapiNg.Properties.C18
namespace DpapiNg.C18
open DpapiNg DpapiNg.Rpc DpapiNg.Epm

/-- floors the codec round-trips: fields in range; a raw floor must not use one of the four known protocol ids -/
def FloorWF : Floor → Prop
  | .raw p l r => p < 256 ∧ p ≠ 7 ∧ p ≠ 9 ∧ p ≠ 11 ∧ p ≠ 13 ∧ l.length + 1 < 65536 ∧ r.length < 65536
  | .tcp port => port < 65536
  | .ip addr => addr < 4294967296
  | .rpcCo m => m < 65536
  | .uuid u v m => u.length = 16 ∧ v < 65536 ∧ m < 65536

/-- every floor is a raw floor on the wire: the decoder finds protocol id, lhs and rhs again and then interprets them -/
theorem floorUnpack_rawPack (p : Nat) (l r : Bytes) (hp : p < 256) (hl : l.length + 1 < 65536) (hr : r.length < 65536) :
    ∃ b, rawPack p l r = .ok b ∧ b.length = l.length + r.length + 5 ∧ ∀ rest,
    floorUnpack (b ++ rest) = (do
      let f ← (if p = 7 then pure (.tcp (Py.fromBE r))
        else if p = 9 then pure (.ip (Py.fromBE r))
        else if p = 11 then pure (.rpcCo (Py.fromLE r))
        else if p = 13 then do
          let u ← uuidOf (Py.sliceN l 0 16)
          pure (.uuid u (Py.fromLE (Py.sliceN l 16 18)) (Py.fromLE r))
        else pure (.raw p l r) : R Floor)
      pure (f, l.length, r.length)) := by
  simp only [rawPack, wire, except_nf, hp, hl, hr]
  refine ⟨_, rfl, by simp only [wire]; omega, fun rest => ?_⟩
  -- the offsets as sums in the order of the parts: length field, protocol id, lhs, length field, rhs
  have e1 : l.length + 1 + 2 = 3 + l.length := by omega
  have e2 : 3 + l.length + r.length + 2 = 3 + l.length + 2 + r.length := by omega
  simp only [floorUnpack, wire, except_nf, hl, hr, e1, e2]

/-- one floor: decode(encode f) = f, and the reader advances by exactly the encoded size -/
theorem floor_rt (f : Floor) (wf : FloorWF f) :
    ∃ b l r, floorPack f = .ok b ∧ b.length = l + r + 5 ∧ ∀ rest, floorUnpack (b ++ rest) = .ok (f, l, r) := by
  cases f with
  | raw p l r =>
    obtain ⟨h1, h2, h3, h4, h5, h6, h7⟩ := wf
    obtain ⟨b, hb, hbl, hu⟩ := floorUnpack_rawPack p l r h1 h6 h7
    exact ⟨b, _, _, hb, hbl, fun rest => by simp only [hu, h2, h3, h4, h5, if_false, except_nf]⟩
  | tcp port =>
    have wf' : port < 65536 := wf
    obtain ⟨b, hb, hbl, hu⟩ := floorUnpack_rawPack 7 [] (Py.toBE port 2) (by omega) (by simp) (by simp)
    exact ⟨b, 0, 2, by simp only [floorPack, wire, except_nf, wf', hb], by simpa using hbl,
      fun rest => by simp only [hu, wire, except_nf, wf']⟩
  | ip addr =>
    have wf' : addr < 4294967296 := wf
    obtain ⟨b, hb, hbl, hu⟩ := floorUnpack_rawPack 9 [] (Py.toBE addr 4) (by omega) (by simp) (by simp)
    exact ⟨b, 0, 4, by simp only [floorPack, wire, except_nf, wf', hb], by simpa using hbl,
      fun rest => by simp only [hu, wire, except_nf, wf', Nat.reduceEqDiff]⟩
  | rpcCo m =>
    have wf' : m < 65536 := wf
    obtain ⟨b, hb, hbl, hu⟩ := floorUnpack_rawPack 11 [] (Py.toLE m 2) (by omega) (by simp) (by simp)
    exact ⟨b, 0, 2, by simp only [floorPack, wire, except_nf, wf', hb], by simpa using hbl,
      fun rest => by simp only [hu, wire, except_nf, wf', Nat.reduceEqDiff]⟩
  | uuid u v m =>
    obtain ⟨h1, h2, h3⟩ := wf
    obtain ⟨b, hb, hbl, hu⟩ := floorUnpack_rawPack 13 (u ++ Py.toLE v 2) (Py.toLE m 2) (by omega) (by simp [h1]) (by simp)
    exact ⟨b, 18, 2, by simp only [floorPack, wire, except_nf, h2, h3, hb], by simpa [h1] using hbl,
      fun rest => by simp only [hu, wire, except_nf, uuidOf, h1, h2, h3, Nat.reduceEqDiff]⟩

theorem floors_rt (fs : List Floor) (wf : ∀ f ∈ fs, FloorWF f) :
    ∃ bs, fs.mapM floorPack = .ok bs ∧ ∀ rest, floorsUnpack fs.length (bs.flatten ++ rest) = .ok (fs, rest) :=
  counted_rt (out := Prod.mk) (fun _ => rfl) fun f hf => by
    obtain ⟨b, l, r, hb, hl, hu⟩ := floor_rt f (wf f hf)
    exact ⟨b, hb, fun n v ys w h => by simp only [floorsUnpack, hu, ← hl, List.drop_left, h, except_nf]⟩

def TowerWF (t : List Floor) : Prop := (∀ f ∈ t, FloorWF f) ∧ t.length < 65536

/-- the tower of a request or of a reply entry: the floor count, then the floors, which the floor loop reads back -/
theorem towerBytes_ok (t : List Floor) (wf : TowerWF t) (hlen : ∀ bt, towerBytes t = .ok bt → bt.length < 4294967296) :
    ∃ bs : List Bytes, towerBytes t = .ok (Py.toLE t.length 2 ++ bs.flatten) ∧ 2 + bs.flatten.length < 4294967296 ∧
      ∀ rest, floorsUnpack t.length (bs.flatten ++ rest) = .ok (t, rest) := by
  obtain ⟨bs, hbs, hfu⟩ := floors_rt t wf.1
  have htb : towerBytes t = .ok (Py.toLE t.length 2 ++ bs.flatten) := by simp only [towerBytes, hbs, wire, except_nf, wf.2]
  exact ⟨bs, htb, by simpa only [wire] using hlen _ htb, hfu⟩

/-- one tower entry (conformance, length, floors, NDR64 padding): one step of the decoder's loop reads it back and
    stops exactly at the next entry -/
theorem towerStep_entry (t : List Floor) (wf : TowerWF t) (hlen : ∀ bt, towerBytes t = .ok bt → bt.length < 4294967296) :
    ∃ b, towerEntryPack t = .ok b ∧ 14 ≤ b.length ∧ ∀ rest, towerStep (b ++ rest) = .ok (t, rest) := by
  obtain ⟨bs, htb, hbl, hfu⟩ := towerBytes_ok t wf hlen
  have hbl8 : 2 + bs.flatten.length < 256 ^ 8 := by omega
  simp only [towerEntryPack, htb, wire, except_nf, hbl, hbl8]
  refine ⟨_, rfl, by simp only [wire]; omega, fun rest => ?_⟩
  rw [towerStep, if_neg (by simp only [wire]; omega)]
  simp only [wire, except_nf, hbl8, wf.2, hfu]

theorem towers_rt (ts : List (List Floor)) (wf : ∀ t ∈ ts, TowerWF t ∧ ∀ bt, towerBytes t = .ok bt → bt.length < 4294967296) :
    ∃ bs, ts.mapM towerEntryPack = .ok bs ∧ ∀ rest, towersUnpack ts.length (bs.flatten ++ rest) = .ok ts :=
  counted_rt (out := fun xs _ => xs) (fun _ => rfl) fun t ht => by
    obtain ⟨b, hb, -, hu⟩ := towerStep_entry t (wf t ht).1 (wf t ht).2
    exact ⟨b, hb, fun n v ys w h => by simp only [towersUnpack, hu, h]⟩

theorem referents_ok (i n : Nat) (h : i + n + 3 < 4294967296) : ∃ b, referents i n = .ok b ∧ b.length = 8 * n := by
  induction n generalizing i with
  | zero => exact ⟨[], rfl, rfl⟩
  | succ n ih =>
    obtain ⟨b, hb, hl⟩ := ih (i + 1) (by omega)
    have h8 : i + 3 < 256 ^ 8 := by omega
    exact ⟨Py.toLE (i + 3) 8 ++ b, by simp only [referents, wire, except_nf, h8, hb], by simp only [wire, hl]; omega⟩

/-- entry handles the codec round-trips (an all-zero handle is `None`) -/
def HandleWF (h : EntryHandle) : Prop :=
  match h with
  | none => True
  | some (a, u) => a < 4294967296 ∧ u.length = 16 ∧ Py.toLE a 4 ++ u ≠ Py.zeros 20

theorem entryHandle_rt (h : EntryHandle) (wf : HandleWF h) :
    ∃ b, entryHandlePack h = .ok b ∧ b.length = 20 ∧ ∀ rest, entryHandleUnpack (b ++ rest) = .ok h := by
  cases h with
  | none => exact ⟨Py.zeros 20, rfl, Py.zeros_length 20, fun rest => by simp only [entryHandleUnpack, wire]⟩
  | some au =>
    obtain ⟨a, u⟩ := au
    obtain ⟨w1, w2, w3⟩ := wf
    refine ⟨Py.toLE a 4 ++ u, by simp only [entryHandlePack, wire, except_nf, w1], by simp only [wire, w2], fun rest => ?_⟩
    simp only [entryHandleUnpack, Py.sliceN_zero, wire, except_nf, w1, w2, w3, uuidOf]

structure _root_.DpapiNg.Epm.EptMapResult.WF (r : EptMapResult) : Prop where
  handle : HandleWF r.entryHandle
  towers : ∀ t ∈ r.towers, TowerWF t ∧ ∀ bt, towerBytes t = .ok bt → bt.length < 4294967296
  count : r.towers.length + 3 < 4294967296
  status : r.status < 4294967296

/-- **ept_map replies**: decode(encode r) = r for every well-formed reply — any number of towers, any floors, every tower
    length residue mod 8 (the NDR64 padding is skipped exactly). -/
theorem eptMapResult_roundtrip (r : EptMapResult) (wf : r.WF) :
    ∃ b, eptMapResultPack r = .ok b ∧ eptMapResultUnpack b = .ok r := by
  have w3 := wf.count
  obtain ⟨eh, heh, hel, heu⟩ := entryHandle_rt r.entryHandle wf.handle
  obtain ⟨refs, hrefs, hrl⟩ := referents_ok 0 r.towers.length (by omega)
  obtain ⟨ts, hts, htu⟩ := towers_rt r.towers wf.towers
  have hn4 : r.towers.length < 4294967296 := by omega
  have hn8 : r.towers.length < 256 ^ 8 := by omega
  simp only [eptMapResultPack, heh, hrefs, hts, wire, except_nf, hn4, hn8, wf.status]
  refine ⟨_, rfl, ?_⟩
  -- the status is read from the end of the reply: `view[-4:]`
  have e1 : ∀ p : Bytes, Py.sliceFrom (p ++ Py.toLE r.status 4) (-4) = Py.toLE r.status 4 :=
    fun p => Py.sliceFrom_neg _ _ (-4) (by simp) (by simp)
  simp only [← List.append_assoc]
  simp only [eptMapResultUnpack, e1]
  simp only [wire, except_nf, heu, hel, hrl, hn8, wf.status, htu]

/-- … hence the client connects to the TCP port of the first tower that has one, for every well-formed reply with status 0. -/
theorem wellformed_reply_gives_port (r : EptMapResult) (wf : r.WF) (hst : r.status = 0) (p : Nat) (hp : firstTcp r.towers = some p) :
    ∃ b, eptMapResultPack r = .ok b ∧ processEptMapResult b = .ok p := by
  obtain ⟨b, hb, hu⟩ := eptMapResult_roundtrip r wf
  exact ⟨b, hb, (port_is_first_tcp b r hu).1 hst p hp⟩

structure _root_.DpapiNg.Epm.EptMap.WF (m : EptMap) : Prop where
  obj : match m.obj with | none => True | some u => u.length = 16 ∧ u ≠ Py.zeros 16
  tower : TowerWF m.tower
  towerLen : ∀ bt, towerBytes m.tower = .ok bt → bt.length < 4294967296
  handle : HandleWF m.entryHandle
  maxTowers : m.maxTowers < 4294967296

/-- **ept_map requests**: decode(encode m) = m (object UUID present / absent, any tower, NDR64 padding skipped exactly) -/
theorem eptMap_roundtrip (m : EptMap) (wf : m.WF) : ∃ b, eptMapPack m = .ok b ∧ eptMapUnpack b = .ok m := by
  have w1 := wf.obj
  obtain ⟨bs, htb, hbl, hfu⟩ := towerBytes_ok m.tower wf.tower wf.towerLen
  have hbl8 : 2 + bs.flatten.length < 256 ^ 8 := by omega
  obtain ⟨eh, heh, hel, heu⟩ := entryHandle_rt m.entryHandle wf.handle
  generalize hO : m.obj.getD (Py.zeros 16) = O
  have lO : O.length = 16 := by
    rw [← hO]; cases hobj : m.obj with
    | none => simp [Py.zeros]
    | some u => rw [hobj] at w1; simpa using w1.1
  have hobj : (if O = Py.zeros 16 then (.ok none : R (Option Bytes)) else Except.map some (uuidOf O)) = .ok m.obj := by
    cases ho : m.obj with
    | none => rw [ho] at hO; simp at hO; simp [← hO]
    | some u =>
      rw [ho] at hO w1; simp at hO; subst hO
      simp [w1.2, uuidOf, w1.1, Except.map]
  simp only [eptMapPack, htb, heh, hO, wire, except_nf, hbl, hbl8, wf.maxTowers]
  refine ⟨_, rfl, ?_⟩
  -- the fixed 32-octet prefix: referent (8), object uuid (16), referent (8)
  simp only [eptMapUnpack, wire, except_nf, lO, hobj, hbl8, wf.tower.2, hfu, heu, hel, wf.maxTowers]

end DpapiNg.C18
