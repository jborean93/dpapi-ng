/-
  C16 — key material is accepted only from replies sealed by the security context.
-/
import DpapiNg.Proofs.RpcClient
namespace DpapiNg.C16
open DpapiNg DpapiNg.Rpc DpapiNg.RpcClient

def isResponse (b : Body) : Bool := match b with | .response _ _ _ _ => true | _ => false

/-- A response PDU without a security trailer (auth_len = 0) answering a sealed request is rejected
    with ValueError — the stub is never handed to the caller (D11 in DESIGN section 8).
    The rejection holds for every PDU the reply decodes to; `hr` is not needed. -/
theorem cleartext_rejected (a : Auth) (sign : Bool) (resp : Bytes) (h : Header) (offs : Nat × Nat) (p : Pdu)
    (h0 : h.authLen = 0) (hdec : pduUnpack resp = .ok p) (hr : isResponse p.body = true) :
    processResponse (some a) sign resp h .response (some offs) = .error .valueError := by
  simp [processResponse_eq, openReply_clear _ _ _ _ _ h0, hdec, except_nf, accept, h0]

/-- the region of the reply the security context is asked to verify and open -/
def regions (resp : Bytes) (h : Header) (s : Nat) : Bytes × Bytes × Bytes × Bytes :=
  let off : Int := (h.fragLen : Int) - ((h.authLen : Int) + 8)
  (resp.take s, Py.slice resp s off, Py.slice resp off (off + 8), Py.sliceFrom resp (off + 8))

/-- Whatever response PDU `request()` returns on a sealed call, the security context's `unwrap` was run
    on (header, body, trailer header, signature) taken at the offsets frag_len / auth_len dictate, it
    succeeded, and the PDU handed to the caller is the decoding of the frame with exactly that plaintext
    spliced in. -/
theorem sealed_only (a : Auth) (sign : Bool) (resp : Bytes) (h : Header) (s e : Nat) (p : Pdu)
    (hok : processResponse (some a) sign resp h .response (some (s, e)) = .ok p) :
    h.authLen ≠ 0 ∧ ∃ dec, a.unwrap sign (regions resp h s).1 (regions resp h s).2.1 (regions resp h s).2.2.1 (regions resp h s).2.2.2 = .ok dec ∧
      pduUnpack (resp.take (Py.clampIdx resp.length s) ++ dec ++
        resp.drop (max (Py.clampIdx resp.length ((h.fragLen : Int) - ((h.authLen : Int) + 8))) (Py.clampIdx resp.length s))) = .ok p := by
  rw [processResponse_eq] at hok
  obtain ⟨r, hr, hok⟩ := bind_ok_iff.mp hok
  obtain ⟨q, hq, hok⟩ := bind_ok_iff.mp hok
  -- in clear, `accept` hands no response on; so the reply was signed and `openReply` ran `unwrap`
  have h0 : h.authLen ≠ 0 := fun h0 => by simp [accept, h0] at hok
  have hqp : q = p := by
    unfold accept at hok; split at hok
    · exact Except.ok.inj hok
    · cases hok
  subst hqp
  simp only [openReply, h0, ne_eq, not_false_eq_true, if_true] at hr
  obtain ⟨dec, hdec, hr⟩ := bind_ok_iff.mp hr
  cases hr
  exact ⟨h0, dec, hdec, hq⟩

/-- integrity idealisation of the security context: `unwrap` succeeds only on what the peer sealed —
    over header and trailer header too when header signing is on — and then yields the sealed plaintext -/
structure Ideal (a : Auth) (sign : Bool) (hdr0 body0 tr0 sig0 plain0 : Bytes) : Prop where
  only : ∀ hdr body tr sig dec, a.unwrap sign hdr body tr sig = .ok dec →
    body = body0 ∧ sig = sig0 ∧ dec = plain0 ∧ (sign = true → hdr = hdr0 ∧ tr = tr0)

/-- Under the idealisation, a reply is accepted only if its body and signature (and, when signing,
    header and trailer header) are the authentic ones, and then the caller gets the authentic plaintext:
    any alteration of those regions is rejected. -/
theorem tamper_rejected (a : Auth) (sign : Bool) (hdr0 body0 tr0 sig0 plain0 : Bytes) (hI : Ideal a sign hdr0 body0 tr0 sig0 plain0)
    (resp : Bytes) (h : Header) (s e : Nat) (p : Pdu)
    (hok : processResponse (some a) sign resp h .response (some (s, e)) = .ok p) :
    (regions resp h s).2.1 = body0 ∧ (regions resp h s).2.2.2 = sig0 ∧
    (sign = true → (regions resp h s).1 = hdr0 ∧ (regions resp h s).2.2.1 = tr0) := by
  obtain ⟨_, dec, hu, _⟩ := sealed_only a sign resp h s e p hok
  obtain ⟨h1, h2, _, h4⟩ := hI.only _ _ _ _ _ hu
  exact ⟨h1, h2, h4⟩

end DpapiNg.C16
