/-
  C03 — KEK derivation agrees on both sides.  `C : Crypto` is arbitrary (so every hash and every
  KDF behaviour); DH is not abstract: `pow` is modelled and (g^x)^e ≡ (g^e)^x is proved.
-/
import DpapiNg.Proofs.Kek
import DpapiNg.Proofs.GkdiRt
namespace DpapiNg.C03
open DpapiNg DpapiNg.Gkdi

/-- same configuration on both sides (what a conforming DC guarantees for one root key) -/
structure SameConfig (a b : Envelope) : Prop where
  l0 : b.l0 = a.l0
  kdfAlg : b.kdfAlgorithm = a.kdfAlgorithm
  kdfPar : b.kdfParameters = a.kdfParameters
  secAlg : b.secretAlgorithm = a.secretAlgorithm
  secPar : b.secretParameters = a.secretParameters
  privLen : b.privateKeyLength = a.privateKeyLength

/-- nonce-mode agreement for the hash the KDF parameters name: the receiver need only derive the sender's L2 key under that hash -/
theorem kek_agree_nonce_alg (C : Crypto) (es er : Envelope) (rnd kek : Bytes) (kid : KeyId) (hname : Bytes) (alg : Hash)
    (hs : es.isPublicKey = false) (hr : er.isPublicKey = false) (hc : SameConfig es er)
    (h1 : kdfParamsUnpack es.kdfParameters = .ok hname) (h2 : hashOfName hname = .ok alg)
    (hL2 : computeL2 C alg es.l1 es.l2 er = .ok es.l2Key)
    (hn : newKek C es rnd = .ok (kek, kid)) : getKek C er kid = .ok kek := by
  have hkp := newKek_isPublicKey hn
  obtain ⟨hka, _, _, ki, h1', h2', hk, rfl⟩ := newKek_eq_ok hn
  cases h1.symm.trans h1'; cases h2.symm.trans h2'
  rw [if_neg (by simp [hs])] at hk
  obtain ⟨rfl, rfl⟩ := hk
  simp only [getKek, hr, hkp, hs, hc.l0, hc.kdfAlg, hka, hc.kdfPar, h1, h2, hL2, Bool.false_eq_true, ne_eq, not_true_eq_false,
    if_false, except_nf]

/-- Nonce mode: the KEK computed when encrypting (from a random nonce and the L2 key the sender
    holds) equals the one computed when decrypting from any envelope from which the same L2 key
    derives (C02) and the key identifier stored in the blob. -/
theorem kek_agree_nonce (C : Crypto) (es er : Envelope) (rnd kek : Bytes) (kid : KeyId)
    (hs : es.isPublicKey = false) (hr : er.isPublicKey = false) (hc : SameConfig es er)
    (hL2 : ∀ alg, computeL2 C alg es.l1 es.l2 er = .ok es.l2Key)
    (hn : newKek C es rnd = .ok (kek, kid)) : getKek C er kid = .ok kek := by
  obtain ⟨_, hname, alg, _, h1, h2, _⟩ := newKek_eq_ok hn
  exact kek_agree_nonce_alg C es er rnd kek kid hname alg hs hr hc h1 h2 (hL2 alg) hn

/-- DH public-key mode: the sender only has the group public key `y = g^x mod p` (x derived by the
    seed holder from the L2 key) and a fresh ephemeral `e`; it stores `g^e mod p` in the blob.  The
    seed holder recovers the same KEK.  Includes every shared secret / public value with leading
    zero bytes: both sides pad to `key_length`.  `compute_kek` validates the peer's value (DESIGN 8, D15), so both
    public values must be valid in the sense of SP 800-56A 5.6.2.3.1 (2 ≤ y ≤ p − 2; `hvalid_group`, `hvalid_eph`) and
    the root key's FFC parameters, when present, must name the same group (`hgrp`). -/
theorem kek_agree_dh (C : Crypto) (ep er : Envelope) (rnd kek seed : Bytes) (kid : KeyId) (alg : Hash) (kl p g : Nat)
    (hpub : ep.isPublicKey = true) (hr : er.isPublicKey = false) (hc : SameConfig ep er)
    (hsa : ep.secretAlgorithm = dhName)
    (hL2 : ∀ a, computeL2 C a ep.l1 ep.l2 er = .ok seed)
    (hkl : kl < 2 ^ 32) (hp0 : 0 < p) (hpw : p ≤ 256 ^ kl) (hg : g < 256 ^ kl)
    (hgrp : ep.secretParameters = [] ∨ ∃ q, ffcParamsUnpack ep.secretParameters = .ok q ∧ q.fieldOrder = p ∧ q.generator = g)
    (hvalid_group : 1 < Py.powMod g (Py.fromBE (C.kdf alg seed kdsServiceLabel (dhName ++ [0, 0]) (Py.ceilDiv8 ep.privateKeyLength))) p ∧
      Py.powMod g (Py.fromBE (C.kdf alg seed kdsServiceLabel (dhName ++ [0, 0]) (Py.ceilDiv8 ep.privateKeyLength))) p < p - 1)
    (hvalid_eph : 1 < Py.powMod g (Py.fromBE rnd) p ∧ Py.powMod g (Py.fromBE rnd) p < p - 1)
    (hkey : ffcKeyPack ⟨kl, p, g, Py.powMod g
        (Py.fromBE (C.kdf alg seed kdsServiceLabel (dhName ++ [0, 0]) (Py.ceilDiv8 ep.privateKeyLength))) p⟩ = .ok ep.l2Key)
    (hn : newKek C ep rnd = .ok (kek, kid))
    (halg : ∀ n, kdfParamsUnpack ep.kdfParameters = .ok n → hashOfName n = .ok alg) :
    getKek C er kid = .ok kek := by
  generalize hx : Py.fromBE (C.kdf alg seed kdsServiceLabel (dhName ++ [0, 0]) (Py.ceilDiv8 ep.privateKeyLength)) = x at *
  -- `hpw` allows p = 256^kl, but the group public key `hkey` exists only if p fits `key_length` octets
  have hpfit : p < 256 ^ kl := ffcKeyPack_fits hkey
  -- a packed public value g^e of this group is unpacked again, by either side
  have hunp (e : Nat) (b : Bytes) (hb : ffcKeyPack ⟨kl, p, g, Py.powMod g e p⟩ = .ok b) :
      ffcKeyUnpack b = .ok ⟨kl, p, g, Py.powMod g e p⟩ := by
    have := ffcKey_rt ⟨kl, p, g, Py.powMod g e p⟩ hkl hpfit hg (Nat.lt_trans (Py.powMod_lt _ _ _ hp0) hpfit)
    rwa [hb] at this
  -- the sender: KEK from (g^x)^e, and g^e goes into the key identifier
  have hkp := newKek_isPublicKey hn
  obtain ⟨hka, hname, alg', ki, h1, h2, hk, rfl⟩ := newKek_eq_ok hn
  cases (halg hname h1).symm.trans h2
  rw [if_pos hpub, hsa, computeKek_dh C alg ep.secretParameters rnd ep.l2Key _ (hunp x _ hkey) hgrp hvalid_group hpw,
    computePublicKey_dh C rnd ep.l2Key _ (hunp x _ hkey) hp0] at hk
  obtain ⟨hkek, hki⟩ := hk
  cases hkek
  -- the seed holder unpacks g^e and computes (g^e)^x
  simp only [getKek, hr, hkp, hpub, hc.l0, hc.kdfAlg, hka, hc.kdfPar, h1, h2, hL2 alg, computeKekFromPublicKey, hc.secAlg, hsa,
    hc.privLen, hx, computeKek_dh C alg er.secretParameters _ ki _ (hunp _ _ hki) (hc.secPar ▸ hgrp) hvalid_eph hpw,
    Py.dh_agree g x (Py.fromBE rnd) p hp0, Bool.false_eq_true, ne_eq, not_true_eq_false, if_false, if_true, except_nf]

/-- ECDH public-key mode, from the agreement law of the abstract group (`Crypto.Laws.ec_agree`). -/
theorem kek_agree_ec (C : Crypto) (L : C.Laws) (cv : Curve) (x e xs ys xe ye : Nat)
    (hs : C.ecPublic cv x = .ok (xs, ys)) (he : C.ecPublic cv e = .ok (xe, ye)) (alg : Hash) :
    (C.ecExchange cv e xs ys).map (kekOf C alg (curveHash cv)) = (C.ecExchange cv x xe ye).map (kekOf C alg (curveHash cv)) := by
  rw [L.ec_agree cv e x xe ye xs ys he hs]

/-- CPython's three-argument `pow`, as modelled, is modular exponentiation. -/
theorem powMod_eq (b e m : Nat) (hm : 0 < m) : Py.powMod b e m = b ^ e % m := Py.powMod_eq b e m hm

/-- Both sides pad the shared secret to `key_length`: a secret with leading zero bytes keeps them. -/
theorem shared_secret_width (s kl : Nat) (h : s < 256 ^ kl) :
    (Py.toBE s kl).length = kl ∧ Py.fromBE (Py.toBE s kl) = s := ⟨Py.toBE_length s kl, Py.fromBE_toBE s kl h⟩

/-- `math.ceil(private_key_length / 8)` -/
theorem ceilDiv8_spec (n : Nat) : 8 * Py.ceilDiv8 n ≥ n ∧ 8 * Py.ceilDiv8 n < n + 8 := by
  unfold Py.ceilDiv8; omega

end DpapiNg.C03
