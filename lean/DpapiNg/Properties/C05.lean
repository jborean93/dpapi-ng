/-
  C05 — Decrypting untrusted bytes ends promptly with a deliberate error type.
  The `Safe` calculus and the per-function lemmas live in Proofs/Safe*.lean.

  `Safe r` says: `r` returns, or raises one of ValueError / NotImplementedError / NotEnoughData /
  InvalidTag / InvalidUnwrap.  The model raises IndexError / OverflowError / struct.error / TypeError /
  KeyError wherever CPython would (`Py.index`, `Py.toBytesLE/BE/LESigned`, …), so `Safe` is a real
  obligation: six of the defects of DESIGN section 8 (D1 D2 D4 D5 D10 D13) are violations of it.
  Every function is total (structural recursion or fuel bounded by the input length), which is the
  model-level content of "ends": the kernel accepted the termination proofs.
-/
import DpapiNg.Proofs.SafeKek
import DpapiNg.Proofs.Work
import DpapiNg.Properties.C02
namespace DpapiNg.C05
open DpapiNg DpapiNg.Asn1 DpapiNg.Blob DpapiNg.Gkdi DpapiNg.Client

/-- Every byte string whatsoever: `DPAPINGBlob.unpack` returns or raises a deliberate error. -/
theorem blobUnpack_deliberate (data : Bytes) : ∀ e, blobUnpack data = .error e → Deliberate e :=
  safe_blobUnpack data

/-- the ASN.1 readers the parser is built from, on every input, tag and peeked header -/
theorem readers_deliberate (v : Bytes) (t : Option Tag) (h : Option Header) :
    Safe (readHeader v) ∧ Safe (readInteger v t h) ∧ Safe (readOid v t h) ∧ Safe (readOctetString v t h) ∧
    Safe (readSequence v t h) ∧ Safe (readSet v t h) ∧ Safe (readBoolean v t h) ∧ Safe (readEnumerated v t h) :=
  ⟨safe_readHeader v, safe_readInteger v t h, safe_readOid v t h, safe_readOctetString v t h, safe_readSequence v t h,
    safe_readSet v t h, safe_readBoolean v t h, safe_readEnumerated v t h⟩

/-- `GroupKeyEnvelope.get_kek` for ANY envelope and ANY key identifier (L0 ≥ 2^31, L1/L2 > 31, a key_info that is not a
    DH/ECDH structure, a key_length of 2^32 − 1, a modulus of 0 …): returns or raises deliberately. -/
theorem getKek_deliberate (C : Crypto) (hC : CryptoSafe C) (e : Envelope) (kid : KeyId) (hb : IsBytes kid.keyInfo) :
    ∀ err, getKek C e kid = .error err → Deliberate err :=
  safe_getKek C hC e kid hb

/-- The SID string of the protection descriptor: ValueError or a security descriptor, never OverflowError. -/
theorem targetSd_deliberate (sid : Bytes) : ∀ e, targetSdOf sid = .error e → Deliberate e := safe_targetSdOf sid

/-- `ncrypt_unprotect_secret(data, cache=…)` for every byte string and every cache state: it returns the plaintext,
    goes to the domain controller, or raises a deliberate error. -/
theorem unprotect_deliberate (C : Crypto) (hC : CryptoSafe C) (s : CState) (data : Bytes) (hb : IsBytes data) :
    ∀ e s', unprotectBegin C s data = (.error e, s') → Deliberate e := by
  intro e s' h
  unfold unprotectBegin at h
  split at h
  · rename_i e' he'
    cases h; exact safe_blobUnpack data e he'
  · rename_i b hbl
    split at h
    · rename_i e' he'
      cases h; exact safe_targetSdOf _ e he'
    · rename_i sd hsd
      split at h
      · rename_i e' s1 hget
        cases h
        exact cacheGet_fail_deliberate C s sd _ _ _ _ e s' hget
      · cases h
      · rename_i env s1 hget
        simp only [Prod.mk.injEq] at h
        exact ofR_decryptBlob_deliberate C hC b env.payload (blobUnpack_isBytes hb hbl) e h.1

/-- … and the second half, after the DC has replied with ANY envelope (a hostile or broken DC included). -/
theorem unprotect_finish_deliberate (C : Crypto) (hC : CryptoSafe C) (s : CState) (data : Bytes) (reply : Envelope) (hb : IsBytes data) :
    ∀ e s', unprotectFinish C s data reply = (.error e, s') → Deliberate e := by
  intro e s' h
  unfold unprotectFinish at h
  split at h
  · rename_i e' he'
    cases h; exact safe_blobUnpack data e he'
  · rename_i b hbl
    split at h
    · rename_i e' he'
      cases h; exact safe_targetSdOf _ e he'
    · simp only [Prod.mk.injEq] at h
      exact ofR_decryptBlob_deliberate C hC b reply (blobUnpack_isBytes hb hbl) e h.1

/-- Bounded work: whatever indices an (untrusted) key identifier names, the L1/L2 walk makes at most 63 KDF
    invocations whenever it is entered at all (an out-of-range or non-covered request is rejected before the first). -/
theorem kdf_calls_le (env : Chain.Env Bytes) (r1 r2 : Nat) (h : ¬ Chain.rejects env r1 r2) : Chain.steps env r1 r2 ≤ 63 :=
  C02.steps_le env r1 r2 h

/-- "parser steps proportional to input size": every data-driven loop of the blob parser (base-128 octets, OID arcs, the
    recipient-info SET) makes at most one iteration per octet it was handed; the other readers are straight-line. -/
theorem parser_loops_bounded :
    (∀ b n k, unpackOctetNumber b = .ok (n, k) → 1 ≤ k ∧ k ≤ b.length) ∧
    (∀ fuel b arcs, readArcs fuel b = .ok arcs → arcs.length ≤ b.length) ∧
    (∀ fuel v ris, recipientInfosUnpack fuel v = .ok ris → ris.length ≤ v.length) :=
  ⟨unpackOctetNumber_consumed, readArcs_length_le, recipientInfosUnpack_length_le⟩

-- `Deliberate` separates: the two exceptions of `cryptography` are in, IndexError and OverflowError are out
example : Deliberate .invalidTag ∧ Deliberate .invalidUnwrap ∧ ¬ Deliberate .indexError ∧ ¬ Deliberate .overflowError := by
  refine ⟨trivial, trivial, ?_, ?_⟩ <;> (intro h; cases h)

end DpapiNg.C05
