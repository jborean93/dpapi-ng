/-
  C07 (continued) — arbitrarily nested value trees: what the writer emits for a tree is read back, by the typed reader calls
  that mirror its schema, to the same tree with exactly the encoded octets consumed; a concatenation of values is read back
  in order with nothing left over.
-/
import DpapiNg.Proofs.Asn1Steps
namespace DpapiNg.C07
open DpapiNg DpapiNg.Asn1 DpapiNg.Blob

/-- values as `ASN1Writer` / `ASN1Reader` see them: primitives and arbitrarily nested sequences / sets -/
inductive V where
  | int (v : Int)
  | octets (b : Bytes)
  | utf8 (b : Bytes)
  | oid (a b : Nat) (rest : List Nat)
  | seq (kids : List V)
  | set (kids : List V)

mutual
/-- what the writer emits (each primitive is the `tlv` the C07 writer lemmas identify; `push_sequence` / `push_set` wrap the content) -/
def V.write : V → Bytes
  | .int v => tlv tINTEGER (packIntegerContent v)
  | .octets b => tlv tOCTET b
  | .utf8 b => tlv tUTF8 b
  | .oid a b r => tlv tOID (oidContent a b r)
  | .seq kids => tlv tSEQ (V.writeList kids)
  | .set kids => tlv tSET (V.writeList kids)
def V.writeList : List V → Bytes
  | [] => []
  | k :: ks => V.write k ++ V.writeList ks
end

mutual
/-- the typed reader calls that mirror the schema of `t` (`read_integer`, `read_sequence` then its children on the content, …):
    returns the value read and the unread rest -/
def V.read : V → Bytes → R (V × Bytes)
  | .int _, v => (rdInt v).map fun (x, r) => (.int x, r)
  | .octets _, v => (rdOctets v).map fun (x, r) => (.octets x, r)
  | .utf8 _, v => (rdUtf8 v).map fun (x, r) => (.utf8 x, r)
  | .oid _ _ _, v => (rdOid v) >>= fun (x, r) => match x with | a :: b :: rest => .ok (.oid a b rest, r) | _ => .error .valueError
  | .seq kids, v => (rdSeq v) >>= fun (c, r) => (V.readList kids c) >>= fun (ks, left) => if left = [] then .ok (.seq ks, r) else .error .valueError
  | .set kids, v => (rdSet v) >>= fun (c, r) => (V.readList kids c) >>= fun (ks, left) => if left = [] then .ok (.set ks, r) else .error .valueError
def V.readList : List V → Bytes → R (List V × Bytes)
  | [], v => .ok ([], v)
  | k :: ks, v => (V.read k v) >>= fun (x, r) => (V.readList ks r) >>= fun (xs, r') => .ok (x :: xs, r')
end

mutual
/-- sizes below the 127-length-octet limit, OIDs with valid leading arcs, UTF-8 strings valid -/
def V.WF : V → Prop
  | .int v => (packIntegerContent v).length < Lim
  | .octets b => b.length < Lim
  | .utf8 b => utf8Valid b = true ∧ b.length < Lim
  | .oid a b r => a ≤ 2 ∧ b ≤ 39 ∧ (oidContent a b r).length < Lim
  | .seq kids => V.WFList kids ∧ (V.writeList kids).length < Lim
  | .set kids => V.WFList kids ∧ (V.writeList kids).length < Lim
def V.WFList : List V → Prop
  | [] => True
  | k :: ks => V.WF k ∧ V.WFList ks
end

mutual
theorem read_write (t : V) (wf : t.WF) (rest : Bytes) : V.read t (t.write ++ rest) = .ok (t, rest) := by
  cases t with
  | int v => simp only [V.read, V.write, rdInt_tlv v rest wf, map_ok]
  | octets b => simp only [V.read, V.write, rdOctets_tlv b rest wf, map_ok]
  | utf8 b => simp only [V.read, V.write, rdUtf8_tlv b rest wf.1 wf.2, map_ok]
  | oid a b r => simp only [V.read, V.write, rdOid_tlv a b r wf.2.1 rest wf.2.2, ok_bind]
  | seq kids =>
    have h := readList_write kids wf.1 []
    simp only [List.append_nil] at h
    simp only [V.read, V.write, rdSeq_tlv _ rest wf.2, ok_bind, h, if_true]
  | set kids =>
    have h := readList_write kids wf.1 []
    simp only [List.append_nil] at h
    simp only [V.read, V.write, rdSet_tlv _ rest wf.2, ok_bind, h, if_true]
theorem readList_write (ts : List V) (wf : V.WFList ts) (rest : Bytes) : V.readList ts (V.writeList ts ++ rest) = .ok (ts, rest) := by
  cases ts with
  | nil => simp [V.readList, V.writeList]
  | cons k ks =>
    have h1 := read_write k wf.1 (V.writeList ks ++ rest)
    have h2 := readList_write ks wf.2 rest
    simp only [V.readList, V.writeList, List.append_assoc, h1, h2, ok_bind]
end

/-- `V.write` is what the writer functions emit, node by node -/
theorem write_is_writer :
    (∀ v, packInteger v = .ok (V.write (.int v))) ∧ (∀ b, packOctetString b = .ok (V.write (.octets b))) ∧
    (∀ b, packUtf8 b = .ok (V.write (.utf8 b))) ∧
    (∀ a b r, a ≤ 2 → b ≤ 39 → packOid (a :: b :: r) = .ok (V.write (.oid a b r))) ∧
    (∀ kids, wSeq (V.writeList kids) = .ok (V.write (.seq kids))) ∧ (∀ kids, wSet (V.writeList kids) = .ok (V.write (.set kids))) :=
  ⟨packInteger_ok, packOctet_ok, packUtf8_ok, packOid_ok, fun _ => wSeq_ok _, fun _ => wSet_ok _⟩

end DpapiNg.C07
