/-
  C12 — DCE/RPC and endpoint-mapper wire codecs are inverse; decoders terminate.
-/
import DpapiNg.Proofs.RpcWire
import DpapiNg.Proofs.WireTables
import DpapiNg.Properties.C18
import DpapiNg.Model.RpcClient
namespace DpapiNg.C12
open DpapiNg DpapiNg.Rpc DpapiNg.Epm

/-- the 16-byte PDU header: decode(encode h) = h, for every well-formed header -/
theorem header_roundtrip (h : Header) (wf : h.WF) (rest : Bytes) :
    ∃ b, headerPack h = .ok b ∧ b.length = 16 ∧ headerUnpack (b ++ rest) = .ok h :=
  let ⟨b, hb, hl, hu⟩ := headerPack_unpack h wf; ⟨b, hb, hl, hu rest⟩

/-- security trailer: decode(encode t) = t (the auth value is everything after the 8-byte header) -/
theorem secTrailer_roundtrip (t : SecTrailer) (h1 : validProvider t.type = true) (h2 : validLevel t.level = true)
    (h3 : t.padLength < 256) (h4 : t.contextId < 4294967296) :
    ∃ b, secTrailerPack t = .ok b ∧ b.length = 8 + t.authValue.length ∧ secTrailerUnpack b = .ok t :=
  secTrailerPack_unpack t h1 h2 h3 h4

/-- syntax identifiers (UUID + version) -/
theorem syntax_roundtrip (s : SyntaxId) (h1 : s.uuid.length = 16) (h2 : s.version < 65536) (h3 : s.versionMinor < 65536) (rest : Bytes) :
    ∃ b, syntaxPack s = .ok b ∧ b.length = 20 ∧ syntaxUnpack (b ++ rest) = .ok s :=
  let ⟨b, hb, hl, hu⟩ := syntaxPack_unpack s ⟨h1, h2, h3⟩; ⟨b, hb, hl, hu rest⟩

/-- The verification-trailer command loop terminates: its result does not depend on the fuel once the
    fuel exceeds |view|/4 (every iteration consumes at least the 4-byte command header). -/
theorem vtCommands_bounded (v : Bytes) (k : Nat) :
    vtCommands (v.length / 4 + 1 + k) v = vtCommands (v.length / 4 + 1) v := by
  refine fuel_stable (c := 4) (fun n m v h => ?_) _ v (by omega) k
  rw [vtCommands, vtCommands]
  split
  · rfl
  · refine bind_congr_ok fun ⟨c, n⟩ _ => ?_
    dsimp only
    split
    · rfl
    · rw [h _ (by rw [List.length_drop]; omega)]

/-- decoding the tower list of an ept_map reply terminates within |reply|/14 + 1 iterations whatever
    count is announced -/
theorem towersUnpack_bounded (n : Nat) (v : Bytes) (hn : v.length / 14 + 1 ≤ n) :
    towersUnpack n v = towersUnpack (v.length / 14 + 1) v := C18.towersUnpack_bounded n v hn

/-- NDR64 tower padding used by EptMap / EptMapResult on both sides -/
theorem tower_padding_aligned (len : Nat) : (12 + len + Py.negMod (len + 4) 8) % 8 = 0 := (C18.tower_padding_aligned len).1

/-- the secondary-address padding of bind_ack: the result list is 4-aligned from the PDU start for every address length -/
theorem bindAck_padding_aligned (n : Nat) : (26 + n + Py.negMod (2 + n) 4) % 4 = 0 := by
  unfold Py.negMod; omega

-- non-vacuity: the header the client itself builds is well-formed
example : (DpapiNg.RpcClient.mkHeader 0 16 1 0).WF := by
  constructor <;> decide

/-! ## whole-PDU round trips (frame = header ‖ body ‖ optional security trailer) and verification trailers -/

/-- RESPONSE PDUs (the carrier of the GetKey reply): decode(encode p) = p, with or without a security trailer, any stub -/
theorem response_roundtrip (h : Header) (wf : h.WF) (t : Option SecTrailer) (twf : TrailerWF t) (ah cid cc : Nat) (stub : Bytes)
    (hpt : h.packetType = 2) (hal : h.authLen = authLenOf t) (h1 : ah < 4294967296) (h2 : cid < 65536) (h3 : cc < 256) :
    ∃ b, pduPack ⟨h, t, .response ah cid cc stub⟩ = .ok b ∧
      (h.fragLen = b.length → pduUnpack b = .ok ⟨h, t, .response ah cid cc stub⟩) := by
  refine frame_rt h wf t twf hal _ (Py.toLE ah 4 ++ Py.toLE cid 2 ++ [cc] ++ [0] ++ stub) (fun hb tb hh ht => ?_) ?_
    (fun _ _ e => nomatch e)
  · simp only [pduPack, hh, ht, wire, except_nf, h1, h2, h3]
  · simp only [hpt, bodyUnpack, wire, except_nf, h1, h2, Nat.reduceEqDiff, or_self]

/-- REQUEST PDUs: decode(encode p) = p; the object UUID is present exactly when PFC_OBJECT_UUID (0x80) is set -/
theorem request_roundtrip (h : Header) (wf : h.WF) (t : Option SecTrailer) (twf : TrailerWF t) (ah cid op : Nat) (obj : Option Bytes) (stub : Bytes)
    (hpt : h.packetType = 0) (hal : h.authLen = authLenOf t) (h1 : ah < 4294967296) (h2 : cid < 65536) (h3 : op < 65536)
    (hobj : match obj with | some u => u.length = 16 ∧ h.packetFlags / 128 % 2 = 1 | none => h.packetFlags / 128 % 2 ≠ 1) :
    ∃ b, pduPack ⟨h, t, .request ah cid op obj stub⟩ = .ok b ∧
      (h.fragLen = b.length → pduUnpack b = .ok ⟨h, t, .request ah cid op obj stub⟩) := by
  refine frame_rt h wf t twf hal _ (Py.toLE ah 4 ++ Py.toLE cid 2 ++ Py.toLE op 2 ++ obj.getD [] ++ stub) (fun hb tb hh ht => ?_) ?_
    (fun _ _ e => nomatch e)
  · simp only [pduPack, hh, ht, wire, except_nf, h1, h2, h3]
  · cases obj with
    | none =>
      have hfl : ¬ (h.packetFlags / 128 % 2 = 1) := hobj
      simp only [hpt, bodyUnpack, Option.getD, wire, except_nf, h1, h2, h3, hfl, Nat.reduceEqDiff, or_self]
    | some u =>
      obtain ⟨hu, hfl⟩ := hobj
      simp only [hpt, bodyUnpack, Option.getD, wire, except_nf, h1, h2, h3, hfl, hu, uuidOf, Nat.reduceEqDiff, or_self]

/-- FAULT PDUs -/
theorem fault_roundtrip (h : Header) (wf : h.WF) (t : Option SecTrailer) (twf : TrailerWF t) (ah cid cc status flags : Nat) (stub : Bytes)
    (hpt : h.packetType = 3) (hal : h.authLen = authLenOf t) (h1 : ah < 4294967296) (h2 : cid < 65536) (h3 : cc < 256)
    (h4 : status < 4294967296) (h5 : flags < 256) :
    ∃ b, pduPack ⟨h, t, .fault ah cid cc status flags stub⟩ = .ok b ∧
      (h.fragLen = b.length → pduUnpack b = .ok ⟨h, t, .fault ah cid cc status flags stub⟩) := by
  refine frame_rt h wf t twf hal _ (Py.toLE ah 4 ++ Py.toLE cid 2 ++ [cc] ++ [flags] ++ Py.toLE status 4 ++ [0, 0, 0, 0] ++ stub)
    (fun hb tb hh ht => ?_) ?_ (fun _ _ e => nomatch e)
  · simp only [pduPack, hh, ht, wire, except_nf, h1, h2, h3, h4, h5]
  · simp only [hpt, bodyUnpack, wire, except_nf, h1, h2, h4, Nat.reduceEqDiff, or_self]

theorem result_rt (r : ContextResult) (wf : r.WF) (rest : Bytes) :
    ∃ b, resultPack r = .ok b ∧ b.length = 24 ∧ resultUnpack (b ++ rest) = .ok r :=
  let ⟨b, hb, hl, hu⟩ := resultPack_unpack r wf; ⟨b, hb, hl, hu rest⟩

/-- BIND_ACK / ALTER_CONTEXT_RESP: decode(encode p) = p for every secondary address length (the alignment padding
    `-(2 + len) % 4` is skipped exactly) and every result list -/
theorem bindAck_roundtrip (h : Header) (wf : h.WF) (t : Option SecTrailer) (twf : TrailerWF t) (isAlter : Bool) (mx mr ag : Nat) (sa : Bytes)
    (rs : List ContextResult)
    (hpt : h.packetType = if isAlter then 15 else 12) (hal : h.authLen = authLenOf t)
    (h1 : mx < 65536) (h2 : mr < 65536) (h3 : ag < 4294967296) (hsa : Rpc.utf8Valid sa = true) (hsl : sa.length + 1 < 65536)
    (hrs : ∀ r ∈ rs, r.WF) (hn : rs.length < 256) :
    ∃ b, pduPack ⟨h, t, .bindAck isAlter mx mr ag sa rs⟩ = .ok b ∧
      (h.fragLen = b.length → pduUnpack b = .ok ⟨h, t, .bindAck isAlter mx mr ag sa rs⟩) := by
  obtain ⟨bs, hbs, hbu⟩ := results_rt rs hrs
  generalize hbsa : (if sa = [] then [] else sa ++ [0] : Bytes) = bsa
  have hbsal : bsa.length < 65536 := by rw [← hbsa]; split <;> simp <;> omega
  have hn4 : rs.length < 4294967296 := by omega
  refine frame_rt h wf t twf hal _ (Py.toLE mx 2 ++ Py.toLE mr 2 ++ Py.toLE ag 4 ++ Py.toLE bsa.length 2 ++ bsa
    ++ Py.zeros (Py.negMod (2 + bsa.length) 4) ++ Py.toLE rs.length 4 ++ bs.flatten) (fun hb tb hh ht => ?_) ?_ (fun _ _ e => nomatch e)
  · simp only [pduPack, hh, ht, hbs, hbsa, wire, except_nf, h1, h2, h3, hbsal, hn4]
  · have n1 : ¬ (h.packetType = 11 ∨ h.packetType = 14) := by rw [hpt]; cases isAlter <;> decide
    have n2 : (h.packetType = 12 ∨ h.packetType = 15) := by rw [hpt]; cases isAlter <;> decide
    have n3 : (decide (h.packetType = 15)) = isAlter := by rw [hpt]; cases isAlter <;> decide
    -- the secondary address: `view[10 : 10 + len - 1]` drops the NUL; for an empty address the slice is empty
    have s5 : ∀ r : Bytes, Py.slice (Py.toLE mx 2 ++ (Py.toLE mr 2 ++ (Py.toLE ag 4 ++ (Py.toLE bsa.length 2 ++ (bsa ++ r))))) 10
        (10 + (bsa.length : Int) - 1) = sa := by
      intro r
      subst hbsa
      split
      · rename_i hs
        rw [Py.slice_lit _ 10 _ 10 9 rfl (by simp), hs]; exact Py.sliceN_empty _ (by omega)
      · rw [Py.slice_lit _ 10 _ 10 (10 + sa.length) rfl (by simp; omega)]
        simp only [wire]
    simp only [bodyUnpack, n1, n2, n3, wire, except_nf, s5, hsa, h1, h2, h3, hbsal, hn,
      of_append_nil hbu]

theorem context_rt (c : ContextElement) (wf : c.WF) (rest : Bytes) :
    ∃ b, contextPack c = .ok b ∧ b.length = 24 + c.transferSyntaxes.length * 20 ∧ contextUnpack (b ++ rest) = .ok c :=
  let ⟨b, hb, hl, hu⟩ := contextPack_unpack c wf; ⟨b, hb, hl, hu rest⟩

/-- BIND / ALTER_CONTEXT: decode(encode p) = p for every context list (any number of transfer syntaxes per context) -/
theorem bind_roundtrip (h : Header) (wf : h.WF) (t : Option SecTrailer) (twf : TrailerWF t) (isAlter : Bool) (mx mr ag : Nat)
    (cs : List ContextElement)
    (hpt : h.packetType = if isAlter then 14 else 11) (hal : h.authLen = authLenOf t)
    (h1 : mx < 65536) (h2 : mr < 65536) (h3 : ag < 4294967296) (hcs : ∀ c ∈ cs, c.WF) (hn : cs.length < 256) :
    ∃ b, pduPack ⟨h, t, .bind isAlter mx mr ag cs⟩ = .ok b ∧
      (h.fragLen = b.length → pduUnpack b = .ok ⟨h, t, .bind isAlter mx mr ag cs⟩) := by
  obtain ⟨bs, hbs, hbu⟩ := contexts_rt cs hcs
  have hn4 : cs.length < 4294967296 := by omega
  refine frame_rt h wf t twf hal _ (Py.toLE mx 2 ++ Py.toLE mr 2 ++ Py.toLE ag 4 ++ Py.toLE cs.length 4 ++ bs.flatten)
    (fun hb tb hh ht => ?_) ?_ (fun _ _ e => nomatch e)
  · simp only [pduPack, hh, ht, hbs, wire, except_nf, h1, h2, h3, hn4]
  · have n1 : (h.packetType = 11 ∨ h.packetType = 14) := by rw [hpt]; cases isAlter <;> decide
    have n3 : (decide (h.packetType = 14)) = isAlter := by rw [hpt]; cases isAlter <;> decide
    simp only [bodyUnpack, n1, n3, wire, except_nf, h1, h2, h3, hn, of_append_nil hbu]

/-- verification-trailer commands the codec round-trips -/
def CommandWF (c : Command) : Prop :=
  c.command < 16384 ∧ (∃ k, k < 4 ∧ c.flags = k * 16384) ∧
  match c.value with
  | .raw v => c.command ≠ 1 ∧ c.command ≠ 2 ∧ c.command ≠ 3 ∧ v.length < 65536
  | .bitmask bits => c.command = 1 ∧ bits < 4294967296
  | .pcontext i t => c.command = 2 ∧ SyntaxWF i ∧ SyntaxWF t
  | .header2 pt dr callId cid op => c.command = 3 ∧ validPacketType pt = true ∧ dr.byteOrder ≤ 1 ∧ dr.character ≤ 1 ∧ dr.floatingPoint ≤ 3 ∧
      callId < 4294967296 ∧ cid < 65536 ∧ op < 65536

/-- the value of a command: the decoder that `Command.unpack` picks by the command type reads back what the value's encoder wrote -/
theorem cmdValue_rt (c : Command) (wf : CommandWF c) :
    ∃ vb, cmdValuePack c = .ok vb ∧ vb.length < 65536 ∧ cmdValueUnpack c.command vb = .ok c.value := by
  obtain ⟨cmd, flags, value⟩ := c
  have w3 := wf.2.2
  cases value with
  | raw v =>
    obtain ⟨n1, n2, n3, hl⟩ := w3
    exact ⟨v, rfl, hl, cmdValueUnpack_other cmd v n1 n2 n3⟩
  | bitmask bits =>
    obtain ⟨rfl, hb⟩ : cmd = 1 ∧ _ := w3
    exact ⟨Py.toLE bits 4, by simp only [cmdValuePack, wire, hb], by simp only [wire],
      by simp only [cmdValueUnpack, wire, except_nf, hb]⟩
  | pcontext i t =>
    obtain ⟨rfl, wi, wt⟩ : cmd = 2 ∧ _ := w3
    obtain ⟨bt, hbt, hbtl, hbtu⟩ := syntaxPack_unpack t wt
    obtain ⟨bi, hbi, hbil, hbiu⟩ := syntaxPack_unpack i wi
    exact ⟨bi ++ bt, by simp only [cmdValuePack, hbi, hbt, except_nf], by simp only [wire, hbil, hbtl],
      by simp only [cmdValueUnpack, Nat.reduceEqDiff, if_false, if_true, hbiu, List.drop_left' hbil, of_append_nil hbtu, except_nf]⟩
  | header2 pt dr callId cid op =>
    obtain ⟨rfl, hpt, d1, d2, d3, hc, hci, hop⟩ : cmd = 3 ∧ _ := w3
    obtain ⟨db, hdb, hdl, hdu⟩ := dataRepPack_unpack dr d1 d2 d3
    refine ⟨[pt] ++ [0, 0, 0] ++ db ++ Py.toLE callId 4 ++ Py.toLE cid 2 ++ Py.toLE op 2,
      by simp only [cmdValuePack, hdb, wire, except_nf, validPacketType_lt hpt, hc, hci, hop], by simp only [wire, hdl], ?_⟩
    simp only [cmdValueUnpack, Nat.reduceEqDiff, wire, except_nf, hdl, hpt, of_append_nil hdu, hc, hci, hop]

/-- a command is its type and flags in one 16-bit field (the type below bit 14), the length of its value, and the value -/
theorem command_rt (c : Command) (wf : CommandWF c) :
    ∃ b n, commandPack c = .ok b ∧ b.length = 4 + n ∧ ∀ rest, commandUnpack (b ++ rest) = .ok (c, n) := by
  obtain ⟨vb, hp, hvl, hdec⟩ := cmdValue_rt c wf
  obtain ⟨cmd, flags, value⟩ := c
  obtain ⟨w1, ⟨k, hk, rfl⟩, -⟩ : cmd < 16384 ∧ (∃ k, k < 4 ∧ flags = k * 16384) ∧ _ := wf
  obtain ⟨hor, m2, m1⟩ : k * 16384 ||| cmd = k * 16384 + cmd ∧ (k * 16384 + cmd) / 16384 = k ∧ (k * 16384 + cmd) % 16384 = cmd :=
    Py.bitfields 14 w1 k
  have hcf : k * 16384 + cmd < 65536 := by omega
  refine ⟨Py.toLE (k * 16384 + cmd) 2 ++ Py.toLE vb.length 2 ++ vb, vb.length, ?_, by simp only [wire]; omega, fun rest => ?_⟩
  · simp only [commandPack, hp, Nat.or_comm cmd, hor, wire, except_nf, hcf, hvl]
  · simp only [commandUnpack, wire, except_nf, hcf, hvl, m1, m2, hdec]

def EndSet (c : Command) : Prop := c.flags / 16384 % 2 = 1

theorem vtCommands_rt (init : List Command) (last : Command) (hi : ∀ c ∈ init, CommandWF c ∧ ¬ EndSet c) (hl : CommandWF last ∧ EndSet last) :
    ∃ bs, (init ++ [last]).mapM commandPack = .ok bs ∧ 4 * (init.length + 1) ≤ bs.flatten.length ∧
      ∀ fuel, init.length + 1 ≤ fuel → vtCommands fuel bs.flatten = .ok (init ++ [last]) := by
  induction init with
  | nil =>
    obtain ⟨b, n, hb, hbl, hu⟩ := command_rt last hl.1
    refine ⟨[b], by simp only [List.nil_append, List.mapM_cons, List.mapM_nil, hb, except_nf], by simp [hbl], fun fuel hf => ?_⟩
    obtain ⟨fuel, rfl⟩ : ∃ k, fuel = k + 1 := ⟨fuel - 1, by omega⟩
    simpa using vtCommands_end fuel b last n (by omega) (of_append_nil hu) hl.2
  | cons c cs ih =>
    obtain ⟨bs, h1, h2, h3⟩ := ih (fun x hx => hi x (List.mem_cons_of_mem _ hx))
    obtain ⟨wfc, nend⟩ := hi c List.mem_cons_self
    obtain ⟨b, n, hb, hbl, hu⟩ := command_rt c wfc
    refine ⟨b :: bs, by simp only [List.cons_append, List.mapM_cons, hb, h1, except_nf],
      by rw [List.flatten_cons, List.length_append, hbl, List.length_cons]; omega, fun fuel hf => ?_⟩
    cases fuel with
    | zero => simp at hf
    | succ fuel =>
      have hge : ¬ (b ++ bs.flatten).length < 4 := by simp [hbl]; omega
      have hne : ¬ (c.flags / 16384 % 2 = 1) := nend
      simp only [List.flatten_cons, List.cons_append, vtCommands, hge, if_false, hu bs.flatten, hne, ← hbl, List.drop_left,
        h3 fuel (by simp at hf; omega), except_nf]

/-- **verification trailers**: decode(encode cmds) = cmds whenever exactly the last command carries SEC_VT_COMMAND_END -/
theorem vt_roundtrip (init : List Command) (last : Command) (hi : ∀ c ∈ init, CommandWF c ∧ ¬ EndSet c) (hl : CommandWF last ∧ EndSet last) :
    ∃ b, vtPack (init ++ [last]) = .ok b ∧ vtUnpack b = .ok (init ++ [last]) := by
  obtain ⟨bs, h1, h2, h3⟩ := vtCommands_rt init last hi hl
  have ls : vtSignature.length = 8 := by decide
  refine ⟨vtSignature ++ bs.flatten, by simp only [vtPack, h1, except_nf], ?_⟩
  simp only [vtUnpack, wire, ls, ne_eq, not_true_eq_false]
  exact h3 _ (by omega)

/-- one protocol version of a bind_nak: two octets -/
def verPack (v : Nat × Nat) : R Bytes := do let p ← le v.1 1; let q ← le v.2 1; pure (p ++ q)

/-- `pduPack` writes the version loop as a `match` on the pair; this folds it into `verPack` so that `versions_rt` applies -/
theorem verPack_eq : (fun (v : Nat × Nat) => match v with | (x, y) => (do let p ← le x 1; let q ← le y 1; pure (p ++ q) : R Bytes)) = verPack := by
  funext v; obtain ⟨x, y⟩ := v; rfl

theorem versions_rt (vs : List (Nat × Nat)) (wf : ∀ v ∈ vs, v.1 < 256 ∧ v.2 < 256) :
    ∃ bs, vs.mapM verPack = .ok bs ∧ ∀ rest, versionsUnpack vs.length (bs.flatten ++ rest) = .ok vs :=
  counted_rt (out := fun xs _ => xs) (fun _ => rfl) fun (x, y) hv => by
    refine ⟨[x] ++ [y], by simp only [verPack, wire, except_nf, (wf _ hv).1, (wf _ hv).2], fun n v ys w h => ?_⟩
    simp only [versionsUnpack, wire, except_nf, h]

/-- BIND_NAK: decode(encode p) = p for every protocol-version list (alignment padding skipped) -/
theorem bindNak_roundtrip (h : Header) (wf : h.WF) (reason : Nat) (vs : List (Nat × Nat))
    (hpt : h.packetType = 13) (hal : h.authLen = 0) (h1 : reason < 65536) (hvs : ∀ v ∈ vs, v.1 < 256 ∧ v.2 < 256) (hn : vs.length < 256) :
    ∃ b, pduPack ⟨h, none, .bindNak reason vs⟩ = .ok b ∧
      (h.fragLen = b.length → pduUnpack b = .ok ⟨h, none, .bindNak reason vs⟩) := by
  obtain ⟨bs, hbs, hbu⟩ := versions_rt vs hvs
  refine frame_rt h wf none trivial hal _ (Py.toLE reason 2 ++ ([vs.length] ++ bs.flatten)
    ++ Py.zeros (Py.negMod (2 + ([vs.length] ++ bs.flatten).length) 4)) (fun hb tb hh ht => ?_) ?_ (fun _ _ _ => rfl)
  · cases ht
    simp only [pduPack, verPack_eq, hh, hbs]
    simp only [wire, except_nf, h1, hn]
  · simp only [hpt, bodyUnpack, wire, except_nf, h1, hbu, Nat.reduceEqDiff, or_self]

end DpapiNg.C12
