/-
  C07 — ASN.1 DER primitives: minimal encoding, exact decoding, exact consumption.
-/
import DpapiNg.Proofs.Asn1Oid
namespace DpapiNg.C07
open DpapiNg.Asn1

/-- Content octets of the INTEGER writer decode back to the value, for every integer
    (negative carry, the 0x7F corner case and −65536-style trailing zero octets included). -/
theorem readLE_packLE (v : Int) : readLE (packLE v) = v := (packLE_spec v).1

/-- The writer never emits an empty INTEGER and its octets are bytes. -/
theorem packInteger_content (v : Int) : packIntegerContent v ≠ [] ∧ IsBytes (packIntegerContent v) := by
  unfold packIntegerContent
  refine ⟨?_, ?_⟩
  · intro h; exact (packLE_spec v).2.2 (by simpa using h)
  · intro x hx; exact (packLE_spec v).2.1 x (by simpa using hx)

/-- Minimality of the INTEGER encoding: a non-negative value never has a redundant leading
    00 octet and a negative value never a redundant leading FF octet (X.690 8.3.2). -/
theorem packInteger_minimal_pos (v : Nat) : top (packLE (v : Int)) ≤ 0x7F ∧
    ((packLE (v : Int)).length > 1 → ¬ (top (packLE (v : Int)) = 0 ∧ top ((packLE (v : Int)).dropLast) < 0x80)) := by
  have hv : ¬ ((v : Int) < 0) := by omega
  simp only [packLE, hv, if_false, Int.toNat_natCast]
  exact ⟨(digitsPos_spec v).2.2.2, digitsPos_minimal v⟩

/-- `_pack_asn1` then `_read_asn1_header`: tag, header size and content length are recovered. -/
theorem readHeader_packTLV (t : Tag) (ht : t.WF) (c rest : Bytes) (hc : c.length < 256 ^ 127) :
    ∃ b, packTLV t c = .ok b ∧ readHeader (b ++ rest) = .ok ⟨t, headerLen t c.length, c.length⟩ ∧
      b.length = headerLen t c.length + c.length :=
  ⟨tlv t c, packTLV_ok t ht c, readHeader_tlv t ht c rest hc, tlv_length t c⟩

/-- Length octets are the unique minimal DER form: short form below 128, otherwise the
    fewest big-endian octets (no leading zero octet). -/
theorem lengthOctets_minimal (n : Nat) :
    (n < 128 → lengthOctets n = [n]) ∧
    (128 ≤ n → ∃ ds, lengthOctets n = (ds.length + 128) :: ds ∧ Py.fromBE ds = n ∧ ds.head? ≠ some 0 ∧ ds ≠ []) := by
  refine ⟨lengthOctets_short, fun h => ⟨(minLE n).reverse, lengthOctets_long h, ?_, ?_, ?_⟩⟩
  · rw [Py.fromBE, List.reverse_reverse, (minLE_spec n).1]
  · rw [List.head?_reverse]; exact minLE_getLast_ne_zero n (by omega)
  · rw [ne_eq, List.reverse_eq_nil_iff]; exact minLE_ne_nil n (by omega)

/-- INTEGER round trip with exact consumption, any trailing bytes. -/
theorem readInteger_packInteger (v : Int) (rest : Bytes) (hc : (packIntegerContent v).length < 256 ^ 127) :
    ∃ b, packInteger v = .ok b ∧ readInteger (b ++ rest) = .ok (v, b.length) :=
  ⟨_, packInteger_ok v, readInteger_tlv v rest hc⟩

/-- Base-128 numbers (high tag numbers, OID arcs) round-trip with exact consumption. -/
theorem octetNumber_roundtrip (n : Nat) (hn : 0 < n) (rest : Bytes) :
    unpackOctetNumber (packOctetNumber n ++ rest) = .ok (n, (packOctetNumber n).length) :=
  unpack_pack_octetNumber n hn rest

/-- OBJECT IDENTIFIER round trip with exact consumption: every OID with first arc ≤ 2, second arc ≤ 39 and
    further arcs of any size (multi-octet base-128 arcs included), any trailing bytes. -/
theorem readOid_packOid (a b : Nat) (rest : List Nat) (ha : a ≤ 2) (hb : b ≤ 39) (tail : Bytes)
    (hlen : (oidContent a b rest).length < 256 ^ 127) :
    ∃ bs, packOid (a :: b :: rest) = .ok bs ∧ readOid (bs ++ tail) = .ok (a :: b :: rest, bs.length) :=
  ⟨_, packOid_ok a b rest ha hb, readOid_tlv a b rest hb tail hlen⟩

/-- OCTET STRING (and every reader that is a bare `_validate_tag`) round-trips. -/
theorem readOctetString_pack (c rest : Bytes) (hc : c.length < 256 ^ 127) :
    ∃ b, packOctetString c = .ok b ∧ readOctetString (b ++ rest) = .ok (c, b.length) :=
  ⟨_, packOctet_ok c, validateTag_tlv tOCTET wf_oct c rest hc none tOCTET rfl⟩

/-- BOOLEAN round trip. -/
theorem readBoolean_pack (v : Bool) (rest : Bytes) :
    ∃ b, packBoolean v = .ok b ∧ readBoolean (b ++ rest) = .ok (v, b.length) := by
  refine ⟨tlv tBOOLEAN [if v then 255 else 0], packTLV_ok _ wf_bool _, ?_⟩
  unfold readBoolean
  rw [validateTag_tlv tBOOLEAN wf_bool _ rest (by simp) none tBOOLEAN rfl, ok_bind]
  cases v <;> simp

/-- An explicit (context-specific, high-number, constructed …) tag round-trips too. -/
theorem validateTag_any (t : Tag) (ht : t.WF) (c rest : Bytes) (hc : c.length < 256 ^ 127) (typeTag : Tag) :
    validateTag (tlv t c ++ rest) (some t) typeTag none = .ok (c, (tlv t c).length) :=
  validateTag_tlv t ht c rest hc (some t) typeTag rfl

/-- −65536 is `FF 00 00`: the reader has to carry through the zero octets (DESIGN section 8, D1). -/
example : packIntegerContent (-65536) = [0xFF, 0x00, 0x00] := by decide +kernel
example : readLE [0x00, 0x00, 0xFF] = -65536 := by decide +kernel
-- non-vacuity of the TLV theorem: a context-specific constructed tag with a high number and a 200-octet content
example : (⟨2, 1000, true⟩ : Tag).WF ∧ (List.replicate 200 7).length < 256 ^ 127 := by
  refine ⟨by decide, ?_⟩; rw [List.length_replicate]; exact Nat.lt_of_lt_of_le (by omega : 200 < 256 ^ 1) (Nat.pow_le_pow_right (by omega) (by omega))

end DpapiNg.C07
