/-
  C09 — encryption names the group key of the interval containing the current time.
  `lin_eq` names what the statements are about: (L0, L1, L2) are the base-32 digits of the interval number `t / base`.
  (`Time.base` is a plain `def`: `omega` sees through it only after `unfold base`.)
-/
import DpapiNg.Model.Time
import DpapiNg.Proofs.TrueDiv
import DpapiNg.Proofs.Cache
namespace DpapiNg.C09
open DpapiNg.Time

/-- The key id is exactly the MS-GKDI closed form, for every clock value. -/
theorem keyId_of_time (t : Nat) :
    indices t = (t / (1024 * 360000000000), (t / (32 * 360000000000)) % 32, (t / 360000000000) % 32) := by
  simp [indices, l0, l1, l2, base]

/-- (L0, L1, L2) are the base-32 digits of the interval number `t / base`; the facts below are facts of `/`. -/
theorem lin_eq (t : Nat) : 1024 * l0 t + 32 * l1 t + l2 t = t / base := by
  unfold l0 l1 l2
  rw [Nat.mul_comm 32 base, Nat.mul_comm 1024 base, ← Nat.div_div_eq_div_mul, ← Nat.div_div_eq_div_mul]
  omega

/-- The named interval contains `t`: never a future or a past interval. -/
theorem keyId_interval (t : Nat) :
    base * (1024 * l0 t + 32 * l1 t + l2 t) ≤ t ∧ t < base * (1024 * l0 t + 32 * l1 t + l2 t + 1) := by
  rw [lin_eq]; exact ⟨Nat.mul_div_le t base, Nat.lt_mul_div_succ t (by decide)⟩

/-- Indices are always in range. -/
theorem indices_in_range (t : Nat) : l1 t ≤ 31 ∧ l2 t ≤ 31 := pos_inRange t

/-- The interval is unique: any in-range triple whose interval contains `t` is the one named. -/
theorem keyId_unique (t a b c : Nat) (hb : b ≤ 31) (hc : c ≤ 31)
    (h : base * (1024 * a + 32 * b + c) ≤ t ∧ t < base * (1024 * a + 32 * b + c + 1)) :
    (a, b, c) = indices t := by
  have hq : 1024 * l0 t + 32 * l1 t + l2 t = 1024 * a + 32 * b + c :=
    lin_eq t ▸ Nat.div_eq_of_lt_le (Nat.mul_comm .. ▸ h.1) (Nat.mul_comm .. ▸ h.2)
  have := indices_in_range t
  simp only [indices, Prod.mk.injEq]; omega

/-- Blobs never name a future interval as time advances: the linearised index is monotone. -/
theorem keyId_monotone (t t' : Nat) (h : t ≤ t') :
    1024 * l0 t + 32 * l1 t + l2 t ≤ 1024 * l0 t' + 32 * l1 t' + l2 t' := by
  rw [lin_eq, lin_eq]; exact Nat.div_le_div_right h

/-- Why L0 is computed with `//`: the float quotient `int(t / y)` rounds up just before an L0 boundary (DESIGN 8, D3). -/
theorem float_l0_wrong :
    Py.trueDivTrunc (363 * 368640000000000 - 1) 368640000000000 ≠ (363 * 368640000000000 - 1) / 368640000000000 := by
  decide +kernel

/-- The float quotients the code uses for L1/L2 are exact (so those lines are correct). -/
theorem float_l1_exact (t : Nat) :
    Py.trueDivTrunc (t % (32 * 32 * base)) (32 * base) = l1 t := by
  rw [Py.trueDivTrunc_small _ _ (by decide) (by decide)
    (Nat.div_lt_of_lt_mul ((by decide : 32 * base * 32 = 32 * 32 * base) ▸ Nat.mod_lt _ (by decide))),
    Nat.mul_assoc, Nat.mod_mul_left_div_self]
  rfl

theorem float_l2_exact (t : Nat) :
    Py.trueDivTrunc (t % (32 * base)) base = l2 t := by
  rw [Py.trueDivTrunc_small _ _ (by decide) (by decide)
    (Nat.div_lt_of_lt_mul ((by decide : base * 32 = 32 * base) ▸ Nat.mod_lt _ (by decide))),
    Nat.mod_mul_left_div_self]
  rfl

-- non-vacuity: a concrete instant (2023-06-01T00:00:00Z) and its interval
example : indices (currentTime 1685577600000000000) = (361, 19, 7) := by decide +kernel
example : indices (363 * 368640000000000 - 1) = (362, 31, 31) := by decide +kernel

end DpapiNg.C09
