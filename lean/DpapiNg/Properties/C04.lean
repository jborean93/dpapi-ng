/-
  C04 — a modified blob never decrypts to different plaintext.
  The property is computational, so the theorem is conditional on an explicit integrity
  idealisation of the two authenticated primitives (a premise, shown consistent by the toy
  instance in the sense that its checks are exactly these): the only inputs that verify are the
  ones the honest protect call produced.  `decrypt_dataflow` is the code-level content: which
  bytes of the blob reach which primitive, and that nothing else influences the output.
-/
import DpapiNg.Proofs.ClientCore
namespace DpapiNg.C04
open DpapiNg DpapiNg.Gkdi DpapiNg.Blob DpapiNg.Client

/-- Whatever `_decrypt_blob` returns is the GCM decryption, under the CEK obtained by unwrapping the
    *whole* `enc_cek` with the KEK bound to the blob's key identifier, with the nonce read from the
    blob's own parameters, of the *whole* `enc_content` (tag included). -/
theorem decrypt_dataflow (C : Crypto) (b : Blob) (key : Envelope) (p' : Bytes) (h : decryptBlob C b key = .ok p') :
    ∃ kek cek iv, getKek C key b.keyId = .ok kek ∧ b.encCekAlg = oidAes256Wrap ∧ C.keyUnwrap kek b.encCek = .ok cek ∧
      b.encContentAlg = oidAes256Gcm ∧ gcmIv b.encContentParams = .ok iv ∧ C.gcmDecrypt cek iv b.encContent = .ok p' := by
  unfold decryptBlob at h
  obtain ⟨kek, hk, h⟩ := bind_ok_iff.mp h
  obtain ⟨cek, hc, h⟩ := bind_ok_iff.mp h
  unfold cekDecrypt at hc
  by_cases ha : b.encCekAlg = oidAes256Wrap
  · simp only [ha, if_true] at hc
    unfold contentDecrypt at h
    by_cases hg : b.encContentAlg = oidAes256Gcm
    · simp only [hg, if_true] at h
      obtain ⟨iv, hiv, h⟩ := bind_ok_iff.mp h
      exact ⟨kek, cek, iv, hk, ha, hc, hg, hiv, h⟩
    · simp [hg] at h
  · simp [ha] at hc

/-- integrity idealisation: the only (key, wrapped) that unwraps and the only (key, nonce, data)
    that decrypts are the honest ones -/
structure OnlyHonest (C : Crypto) (kek0 wcek0 cek0 iv0 ct0 : Bytes) : Prop where
  unwrap : ∀ k w c, C.keyUnwrap k w = .ok c → k = kek0 ∧ w = wcek0
  decrypt : ∀ k n c p, C.gcmDecrypt k n c = .ok p → k = cek0 ∧ n = iv0 ∧ c = ct0

/-- Under the idealisation, for EVERY blob value (not only edits of the original) and every key
    envelope: if decryption returns anything, it returns the original plaintext. -/
theorem tamper_safe (C : Crypto) (kek0 wcek0 cek0 iv0 ct0 pt : Bytes)
    (hon : OnlyHonest C kek0 wcek0 cek0 iv0 ct0) (hpt : C.gcmDecrypt cek0 iv0 ct0 = .ok pt)
    (b' : Blob) (key : Envelope) (p' : Bytes) (h : decryptBlob C b' key = .ok p') : p' = pt := by
  obtain ⟨kek, cek, iv, _, _, _, _, _, hd⟩ := decrypt_dataflow C b' key p' h
  obtain ⟨h1, h2, h3⟩ := hon.decrypt _ _ _ _ hd
  rw [h1, h2, h3, hpt] at hd
  cases hd; rfl

/-- at the API level: whatever bytes are handed to unprotect, a returned plaintext is the original -/
theorem tamper_safe_api (C : Crypto) (kek0 wcek0 cek0 iv0 ct0 pt : Bytes)
    (hon : OnlyHonest C kek0 wcek0 cek0 iv0 ct0) (hpt : C.gcmDecrypt cek0 iv0 ct0 = .ok pt)
    (s : CState) (data' p' : Bytes) (s' : CState) (h : unprotectBegin C s data' = (.done p', s')) : p' = pt := by
  unfold unprotectBegin at h
  split at h
  · cases h
  · rename_i b hb
    split at h
    · cases h
    · rename_i sd hsd
      split at h
      · cases h
      · cases h
      · rename_i env s1 hget
        simp only [Prod.mk.injEq] at h
        obtain ⟨ho, _⟩ := h
        cases hd : decryptBlob C b env.payload with
        | error e => simp [hd, ofR] at ho
        | ok q =>
          simp only [hd, ofR, Outcome.done.injEq] at ho
          subst ho
          exact tamper_safe C kek0 wcek0 cek0 iv0 ct0 pt hon hpt b env.payload q hd

/-- The idealisation above is about parties who cannot compute the KEK.  In DH public-key mode the KEK depends on a value
    read from the blob; a degenerate value (0, 1, p − 1 …) makes the shared secret — hence the KEK — predictable without
    any key, and a foreign modulus makes it whatever the forger likes.  `compute_kek` rejects both, whatever the private
    key (DESIGN 8, D15): a value outside 2 … p − 2 … -/
theorem degenerate_dh_rejected (C : Crypto) (alg : Hash) (sp priv pub : Bytes) (k : FfcKey)
    (hu : ffcKeyUnpack pub = .ok k) (hbad : k.publicKey ≤ 1 ∨ k.fieldOrder - 1 ≤ k.publicKey) :
    ∃ e, computeKek C alg dhName sp priv pub = .error e := by
  rw [computeKek_dh_eq hu, if_neg (by omega)]
  cases groupCheck sp k with
  | error e => exact ⟨e, rfl⟩
  | ok _ => exact ⟨.valueError, rfl⟩

/-- … and a value whose modulus or generator is not the root key's. -/
theorem foreign_group_rejected (C : Crypto) (alg : Hash) (sp priv pub : Bytes) (k : FfcKey) (q : FfcParams)
    (hu : ffcKeyUnpack pub = .ok k) (hsp : sp ≠ []) (hq : ffcParamsUnpack sp = .ok q)
    (hbad : k.fieldOrder ≠ q.fieldOrder ∨ k.generator ≠ q.generator) :
    computeKek C alg dhName sp priv pub = .error .valueError := by
  simp only [computeKek_dh_eq hu, groupCheck, hsp, hq, hbad, if_true, if_false, except_nf]

end DpapiNg.C04
