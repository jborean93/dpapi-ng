/-
  C02 — derived group keys equal the MS-GKDI chain from any covering seed material.
  Stated over an arbitrary KDF `kdf : Key → Ctx → Key` and arbitrary context functions, so it
  holds for every hash, root key, security descriptor and L0 at once; the whole 32⁴ lattice and
  all envelope shapes are covered by the quantifiers, with no enumeration.
-/
import DpapiNg.Proofs.Chain
namespace DpapiNg.C02
open DpapiNg.Chain
variable {Key Ctx : Type} (kdf : Key → Ctx → Key) (c1 : Nat → Ctx) (c2 : Nat → Nat → Ctx)

/-- `compute_l2_key` by cases: the L2 seed in hand is used when the L1 index already matches (and L2 is not 31) … -/
theorem computeL2_keep (env : Env Key) (r1 r2 : Nat) (h : ¬ rejects env r1 r2) (hre : ¬ reseed env r1) :
    computeL2 kdf c1 c2 env r1 r2 = some (walk2 kdf c2 env.l2Key r1 env.l2 (env.l2 - r2)) := by
  simp only [computeL2, if_neg h, if_neg hre]

/-- … otherwise the L1 key is walked from the start index down to `r1` and a fresh L2 seed (index 31) is derived from it -/
theorem computeL2_reseed (env : Env Key) (r1 r2 : Nat) (h : ¬ rejects env r1 r2) (hre : reseed env r1) :
    computeL2 kdf c1 c2 env r1 r2 = some (walk2 kdf c2
      (kdf (walk1 kdf c1 env.l1Key (startL1 env r1) (startL1 env r1 - r1)) (c2 r1 31)) r1 31 (31 - r2)) := by
  simp only [computeL2, if_neg h, if_pos hre]

/-- From every conforming envelope at or after the requested position the derived key is the
    chain key `K2 r1 r2`. -/
theorem computeL2_correct (k31 : Key) (env : Env Key) (h : Conforming kdf c1 c2 k31 env)
    (r1 r2 : Nat) (h1 : r1 ≤ 31) (h2 : r2 ≤ 31) (hc : r1 < env.l1 ∨ (r1 = env.l1 ∧ r2 ≤ env.l2)) :
    computeL2 kdf c1 c2 env r1 r2 = some (K2 kdf c1 c2 k31 r1 r2) := by
  -- reseeding from `K1 s` at a start index `s ≥ r1` gives `K2 r1 31`, walked down to `K2 r1 r2`
  have fresh (s : Nat) (hs : s ≤ 31) (hr : r1 ≤ s) :
      walk2 kdf c2 (kdf (walk1 kdf c1 (K1 kdf c1 k31 s) s (s - r1)) (c2 r1 31)) r1 31 (31 - r2) = K2 kdf c1 c2 k31 r1 r2 := by
    rw [walk1_K1 kdf c1 k31 s (s - r1) hs (Nat.sub_le ..), Nat.sub_sub_self hr]; rfl
  cases h with
  | atL2_31 a k2 ha =>
    simp only at hc
    rw [computeL2_reseed _ _ _ _ _ _ (by unfold rejects; simp only; omega) (.inl (.inl rfl)),
      show startL1 ⟨a, 31, K1 kdf c1 k31 a, k2⟩ r1 = a from if_neg fun h => h.1 rfl]
    exact congrArg some (fresh a ha (by omega))
  | below a b k1 ha hb hk =>
    simp only at hc
    have hnr : ¬ rejects ⟨a, b, k1, K2 kdf c1 c2 k31 a b⟩ r1 r2 := by unfold rejects; simp only; omega
    by_cases e : a = r1
    · subst e
      rw [computeL2_keep _ _ _ _ _ _ hnr (by unfold reseed startL1; simp only [ne_eq, not_true_eq_false, and_false, if_false, or_false]; omega)]
      simp only
      rw [walk2_K2 kdf c1 c2 k31 a b (b - r2) (by omega) (Nat.sub_le ..), Nat.sub_sub_self (by omega)]
    · rw [computeL2_reseed _ _ _ _ _ _ hnr (.inl (.inr e)),
        show startL1 ⟨a, b, k1, K2 kdf c1 c2 k31 a b⟩ r1 = a - 1 from if_pos ⟨by simp only; omega, e⟩]
      simp only
      rw [hk (by omega)]
      exact congrArg some (fresh (a - 1) (by omega) (by omega))

/-- If the seed material does not cover the request, or any index is outside 0..31, no key is
    returned (the concrete model turns `none` into `ValueError`). -/
theorem computeL2_rejects (env : Env Key) (r1 r2 : Nat)
    (h : 31 < r1 ∨ 31 < r2 ∨ 31 < env.l1 ∨ 31 < env.l2 ∨ env.l1 < r1 ∨ (env.l1 = r1 ∧ env.l2 < r2)) :
    computeL2 kdf c1 c2 env r1 r2 = none := by
  unfold computeL2 rejects; simp [h]

/-- … and conversely a key is returned only for covered, in-range requests. -/
theorem computeL2_some_covered (env : Env Key) (r1 r2 : Nat) (k : Key) (h : computeL2 kdf c1 c2 env r1 r2 = some k) :
    r1 ≤ 31 ∧ r2 ≤ 31 ∧ (r1 < env.l1 ∨ (r1 = env.l1 ∧ r2 ≤ env.l2)) := by
  unfold computeL2 at h
  by_cases hr : rejects env r1 r2
  · simp [hr] at h
  · unfold rejects at hr; omega

/-- "nor loops": the number of KDF invocations is at most 63 whenever a key is returned. -/
theorem steps_le (env : Env Key) (r1 r2 : Nat) (h : ¬ rejects env r1 r2) : steps env r1 r2 ≤ 63 := by
  unfold rejects at h
  unfold steps startL1
  split <;> split <;> omega

/-- The envelope `KeyCache._get_key` builds from a root key — position (31, 31), L1 key = K1 31,
    L2 key empty — is conforming, so every in-range position is derivable from it. -/
theorem rootEnvelope_conforming (k31 : Key) (empty : Key) :
    Conforming kdf c1 c2 k31 ⟨31, 31, k31, empty⟩ := by
  have h := Conforming.atL2_31 (kdf := kdf) (c1 := c1) (c2 := c2) (k31 := k31) 31 empty (Nat.le_refl 31)
  simpa [K1, walk1] using h

theorem root_derives_everything (k31 empty : Key) (r1 r2 : Nat) (h1 : r1 ≤ 31) (h2 : r2 ≤ 31) :
    computeL2 kdf c1 c2 ⟨31, 31, k31, empty⟩ r1 r2 = some (K2 kdf c1 c2 k31 r1 r2) :=
  computeL2_correct kdf c1 c2 k31 _ (rootEnvelope_conforming kdf c1 c2 k31 empty) r1 r2 h1 h2 (by simp only []; omega)

/-- Seed-independence: any two conforming envelopes that cover the request give the same key. -/
theorem seed_independent (k31 : Key) (e₁ e₂ : Env Key) (h₁ : Conforming kdf c1 c2 k31 e₁) (h₂ : Conforming kdf c1 c2 k31 e₂)
    (r1 r2 : Nat) (hr1 : r1 ≤ 31) (hr2 : r2 ≤ 31)
    (c₁ : r1 < e₁.l1 ∨ (r1 = e₁.l1 ∧ r2 ≤ e₁.l2)) (c₂ : r1 < e₂.l1 ∨ (r1 = e₂.l1 ∧ r2 ≤ e₂.l2)) :
    computeL2 kdf c1 c2 e₁ r1 r2 = computeL2 kdf c1 c2 e₂ r1 r2 := by
  rw [computeL2_correct kdf c1 c2 k31 e₁ h₁ r1 r2 hr1 hr2 c₁, computeL2_correct kdf c1 c2 k31 e₂ h₂ r1 r2 hr1 hr2 c₂]

-- non-vacuity: position (17, 13) (the Windows vectors' position) from the root envelope, with a
-- free KDF (keys are the lists of contexts applied)
example : computeL2 (fun (k : List (Nat × Int)) c => c :: k) (fun i => (i, -1)) (fun i j => (i, (j : Int)))
    ⟨31, 31, [], []⟩ 17 13 = some (K2 (fun k c => c :: k) (fun i => (i, -1)) (fun i j => (i, (j : Int))) [] 17 13) :=
  root_derives_everything _ _ _ [] [] 17 13 (by omega) (by omega)

end DpapiNg.C02
