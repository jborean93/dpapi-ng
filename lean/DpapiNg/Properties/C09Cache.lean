/-
  C09 at the level of the public function: whatever the shared cache holds — any state, so after any history of
  root-key loads, protects and unprotects — a protect answered from the cache emits a blob whose key identifier
  names the MS-GKDI interval containing the CURRENT clock value.
-/
import DpapiNg.Proofs.EndToEnd
namespace DpapiNg.C09
open DpapiNg DpapiNg.Client DpapiNg.Gkdi DpapiNg.Blob

/-- the envelope `_get_protection_gke_from_cache` hands to the encryptor names the interval of the current instant,
    for EVERY cache state (nothing remembered from earlier calls can change it) -/
theorem protectionGke_names_now (C : Crypto) (s s' : CState) (sd rk : Bytes) (timeNs : Nat) (env : Envelope)
    (h : protectionGke C s sd rk timeNs = (.ok (some env), s')) :
    (env.l0, env.l1, env.l2) = Time.indices (Time.currentTime timeNs) := by
  obtain ⟨_, _, _, _, _, _, _, hi, _, _, _, _, _, _, rfl⟩ := protectionGke_some h
  exact hi

/-- **the blob**: when `ncrypt_protect_secret` naming a root key is answered from the cache, the emitted bytes are the
    encoding of a blob whose key identifier carries exactly `indices(now)` — for every cache state, plaintext, SID,
    draws and clock value (sub-tick nanoseconds included: `currentTime` floors to 100 ns ticks) -/
theorem protect_blob_names_now (C : Crypto) (s s' : CState) (data sid rk : Bytes) (dom : Option Bytes) (timeNs : Nat) (d : Draws)
    (out : Bytes) (h : protectBegin C s data sid (some rk) dom timeNs d = (.done out, s')) :
    ∃ b : Blob, blobPack b true = .ok out ∧
      (b.keyId.l0, b.keyId.l1, b.keyId.l2) = Time.indices (Time.currentTime timeNs) ∧ b.keyId.rootKeyId = rk := by
  obtain ⟨sd, env, s1, b, _, hg, hb, hp, _⟩ := protectBegin_done h
  obtain ⟨_, _, _, _, kid, _, _, _, _, hk, _, rfl⟩ := encryptBlobValue_eq_ok hb
  obtain ⟨k0, k1, k2, k3⟩ := newKek_keyId hk
  obtain ⟨_, _, _, _, _, _, _, hi, _, _, _, _, _, _, rfl⟩ := protectionGke_some hg
  refine ⟨_, hp, ?_, ?_⟩
  · show (kid.l0, kid.l1, kid.l2) = _
    rw [k1, k2, k3]; exact hi
  · show kid.rootKeyId = rk
    rw [k0]; rfl

-- non-vacuity of the clock part: 2023-06-01T00:00:00.000000099Z (a sub-tick instant) lies in (361, 19, 7)
example : Time.indices (Time.currentTime 1685577600000000099) = (361, 19, 7) := by decide +kernel

end DpapiNg.C09
