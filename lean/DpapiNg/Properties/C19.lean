/-
  C19 — every encryption uses fresh CEK, nonce and key-identifier randomness.
  In the model the randomness of one protect call is an explicit triple of draws; the theorems say
  the blob is a function of exactly those draws in exactly these places, so distinct draws give
  distinct (key, nonce) pairs, key identifiers and blobs.  That successive `os.urandom` draws are
  distinct is a premise (probability, not logic).
-/
import DpapiNg.Proofs.ClientCore
namespace DpapiNg.C19
open DpapiNg DpapiNg.Gkdi DpapiNg.Blob DpapiNg.Client

/-- the blob carries the second draw as its GCM nonce, the wrap of the first draw as its encrypted
    CEK, and the content is encrypted under exactly (first draw, second draw) -/
theorem protect_uses_draws (C : Crypto) (data : Bytes) (key : Envelope) (sid : Bytes) (d : Draws) (b : Blob)
    (hiv : d.iv.length < 2 ^ 32) (henc : encryptBlobValue C data key sid d = .ok b) :
    gcmIv b.encContentParams = .ok d.iv ∧
    (∃ kek kid, newKek C key d.kekRnd = .ok (kek, kid) ∧ b.keyId = kid ∧ C.keyWrap kek d.cek = .ok b.encCek) ∧
    C.gcmEncrypt d.cek d.iv data = .ok b.encContent := by
  obtain ⟨params, ct, kek, kid, w, hpiv, hg, hn, hw, rfl⟩ := encryptBlobValue_draws hiv henc
  exact ⟨hpiv, ⟨kek, kid, hn, rfl, hw⟩, hg⟩

/-- nonce mode: the key identifier's key_info is the third draw -/
theorem keyInfo_is_draw (C : Crypto) (data : Bytes) (key : Envelope) (sid : Bytes) (d : Draws) (b : Blob)
    (hiv : d.iv.length < 2 ^ 32) (hpub : key.isPublicKey = false) (henc : encryptBlobValue C data key sid d = .ok b) :
    b.keyId.keyInfo = d.kekRnd := by
  obtain ⟨_, ⟨kek, kid, hn, hk, _⟩, _⟩ := protect_uses_draws C data key sid d b hiv henc
  rw [hk]; exact newKek_nonce_keyInfo hpub hn

/-- two protect calls whose GCM nonces differ produce different blobs (even for identical arguments) -/
theorem distinct_nonce_distinct_blob (C : Crypto) (data data' : Bytes) (key key' : Envelope) (sid sid' : Bytes) (d d' : Draws) (b b' : Blob)
    (hiv : d.iv.length < 2 ^ 32) (hiv' : d'.iv.length < 2 ^ 32) (hne : d.iv ≠ d'.iv)
    (h : encryptBlobValue C data key sid d = .ok b) (h' : encryptBlobValue C data' key' sid' d' = .ok b') : b ≠ b' := by
  intro e
  have h1 := (protect_uses_draws C data key sid d b hiv h).1
  have h2 := (protect_uses_draws C data' key' sid' d' b' hiv' h').1
  rw [e, h2] at h1
  exact hne (Except.ok.inj h1).symm

/-- … and likewise when the key-identifier nonces differ (nonce mode) -/
theorem distinct_keyInfo_distinct_blob (C : Crypto) (data data' : Bytes) (key key' : Envelope) (sid sid' : Bytes) (d d' : Draws) (b b' : Blob)
    (hiv : d.iv.length < 2 ^ 32) (hiv' : d'.iv.length < 2 ^ 32) (hp : key.isPublicKey = false) (hp' : key'.isPublicKey = false)
    (hne : d.kekRnd ≠ d'.kekRnd)
    (h : encryptBlobValue C data key sid d = .ok b) (h' : encryptBlobValue C data' key' sid' d' = .ok b') : b.keyId ≠ b'.keyId := by
  intro e
  have h1 := keyInfo_is_draw C data key sid d b hiv hp h
  have h2 := keyInfo_is_draw C data' key' sid' d' b' hiv' hp' h'
  rw [e, h2] at h1
  exact hne h1.symm

/-- history level: a sequence of protect calls fed from a draw stream `src` uses draws 3k, 3k+1, 3k+2
    for the k-th call; if the stream never repeats, all CEKs, all nonces and all key-identifier
    nonces are pairwise distinct, so no (key, nonce) pair is ever reused -/
def drawsAt (src : Nat → Bytes) (k : Nat) : Draws := ⟨src (3 * k), src (3 * k + 1), src (3 * k + 2)⟩

theorem pairwise_distinct (src : Nat → Bytes) (hinj : ∀ i j, src i = src j → i = j) (k k' : Nat) (hk : k ≠ k') :
    (drawsAt src k).cek ≠ (drawsAt src k').cek ∧ (drawsAt src k).iv ≠ (drawsAt src k').iv ∧
    (drawsAt src k).kekRnd ≠ (drawsAt src k').kekRnd ∧
    ((drawsAt src k).cek, (drawsAt src k).iv) ≠ ((drawsAt src k').cek, (drawsAt src k').iv) := by
  refine ⟨?_, ?_, ?_, ?_⟩
  · intro h; have := hinj _ _ h; omega
  · intro h; have := hinj _ _ h; omega
  · intro h; have := hinj _ _ h; omega
  · intro h; have := hinj _ _ (congrArg Prod.fst h); omega

end DpapiNg.C19
