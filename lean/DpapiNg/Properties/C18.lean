/-
  C18 — endpoint-mapper replies: right port if well-formed, bounded work for any reply.
-/
import DpapiNg.Model.Epm
import DpapiNg.Proofs.Counted
namespace DpapiNg.C18
open DpapiNg DpapiNg.Rpc DpapiNg.Epm

/-- `firstTcp` is the port of the first tower that has a TCP floor, and within it the first TCP floor. -/
theorem firstTcp_spec (before : List (List Floor)) (t : List Floor) (after : List (List Floor)) (p : Nat)
    (hb : ∀ x ∈ before, towerTcp x = none) (ht : towerTcp t = some p) :
    firstTcp (before ++ t :: after) = some p := by
  induction before with
  | nil => simp only [List.nil_append, firstTcp, ht]
  | cons x xs ih =>
    have hx : towerTcp x = none := hb x (by simp)
    simp only [List.cons_append, firstTcp, hx]
    exact ih (fun y hy => hb y (by simp [hy]))

theorem firstTcp_none (ts : List (List Floor)) (h : ∀ x ∈ ts, towerTcp x = none) : firstTcp ts = none := by
  induction ts with
  | nil => rfl
  | cons x xs ih =>
    have hx : towerTcp x = none := h x (by simp)
    simp only [firstTcp, hx]
    exact ih (fun y hy => h y (by simp [hy]))

/-- `_process_ept_map_result`: a port is returned exactly when the reply decodes, its status is 0 and some
    tower has a TCP floor — and then it is `firstTcp`; a non-zero status or no TCP floor is ValueError. -/
theorem port_is_first_tcp (stub : Bytes) (r : EptMapResult) (h : eptMapResultUnpack stub = .ok r) :
    (r.status = 0 → ∀ p, firstTcp r.towers = some p → processEptMapResult stub = .ok p) ∧
    (r.status ≠ 0 → processEptMapResult stub = .error .valueError) ∧
    (firstTcp r.towers = none → processEptMapResult stub = .error .valueError) := by
  simp only [processEptMapResult, h, except_nf]
  refine ⟨fun hs p hp => ?_, fun hs => ?_, fun hn => ?_⟩
  · simp only [hs, hp, ↓reduceIte]
  · simp only [hs, ↓reduceIte]
  · simp only [hn]; split <;> rfl

theorem floorsUnpack_suffix (k : Nat) (x : Bytes) (fs : List Floor) (y : Bytes) (hh : floorsUnpack k x = .ok (fs, y)) :
    y.length ≤ x.length := by
  induction k generalizing x fs y with
  | zero => cases hh; exact Nat.le_refl _
  | succ k ihk =>
    simp only [floorsUnpack] at hh
    obtain ⟨⟨f, l, r⟩, -, hh⟩ := bind_ok_iff.mp hh
    obtain ⟨⟨fs', y'⟩, hres, hh⟩ := bind_ok_iff.mp hh
    cases hh
    have := ihk _ _ _ hres
    simp only [List.length_drop] at this ⊢; omega

/-- one iteration consumes at least 14 bytes -/
theorem towerStep_consumes (v : Bytes) (t : List Floor) (rest : Bytes) (h : towerStep v = .ok (t, rest)) :
    rest.length + 14 ≤ v.length := by
  unfold towerStep at h
  split at h
  · cases h
  · obtain ⟨⟨tower, w⟩, hfw, h⟩ := bind_ok_iff.mp h
    cases h
    have := floorsUnpack_suffix _ _ _ _ hfw
    simp only [List.length_drop] at this ⊢
    omega

/-- every tower the loop decodes consumed at least 14 bytes of the reply (`towerStep` raises when fewer remain; D12 in
    DESIGN section 8): the number of decoded towers — whatever count the reply announces, 2^64−1 included — is
    bounded by the reply length -/
theorem towersUnpack_len (n : Nat) (v : Bytes) (ts : List (List Floor)) (h : towersUnpack n v = .ok ts) :
    ts.length = n ∧ 14 * n ≤ v.length := by
  induction n generalizing v ts with
  | zero => simp [towersUnpack] at h; subst h; simp
  | succ n ih =>
    rw [towersUnpack] at h
    split at h
    · cases h
    · rename_i tower rest hstep
      split at h
      · cases h
      · rename_i ts' hrec
        simp only [Except.ok.injEq] at h
        subst h
        have ⟨h1, h2⟩ := ih _ _ hrec
        have := towerStep_consumes _ _ _ hstep
        constructor
        · simp [h1]
        · omega

/-- an error of the tower loop is the same error under a larger announced count -/
theorem towersUnpack_error_mono (n : Nat) (v : Bytes) (e : PyErr) (h : towersUnpack n v = .error e) :
    towersUnpack (n + 1) v = .error e := by
  induction n generalizing v e with
  | zero => simp [towersUnpack] at h
  | succ n ih =>
    rw [towersUnpack] at h ⊢
    split
    · rename_i e' hstep; simp only [hstep] at h; exact h
    · rename_i tower rest hstep
      simp only [hstep] at h
      cases hrec : towersUnpack n rest with
      | ok ts' => simp [hrec] at h
      | error e' =>
        simp only [hrec] at h
        rw [ih _ _ hrec]
        exact h

/-- an announced count the data cannot hold is an error, found after at most |reply|/14 + 1 iterations:
    the result for ANY larger announced count equals the result for that bound -/
theorem towersUnpack_bounded (n : Nat) (v : Bytes) (hn : v.length / 14 + 1 ≤ n) :
    towersUnpack n v = towersUnpack (v.length / 14 + 1) v := by
  obtain ⟨k, rfl⟩ := Nat.exists_eq_add_of_le hn
  refine fuel_stable (c := 14) (fun n m v h => ?_) _ v (by omega) k
  rw [towersUnpack, towersUnpack]
  split
  · rfl
  · rename_i t rest hstep
    rw [h rest (towerStep_consumes _ _ _ hstep)]

/-- the floor loop consumes input on every successful iteration as well (≥ 3 bytes are needed per floor) -/
theorem floorsUnpack_len (k : Nat) (x : Bytes) (fs : List Floor) (y : Bytes) (h : floorsUnpack k x = .ok (fs, y)) :
    fs.length = k ∧ (0 < k → 3 ≤ x.length) := by
  induction k generalizing x fs y with
  | zero => cases h; exact ⟨rfl, nofun⟩
  | succ k ih =>
    simp only [floorsUnpack] at h
    obtain ⟨⟨f, l, r⟩, hfl, h⟩ := bind_ok_iff.mp h
    obtain ⟨⟨fs', y'⟩, hres, h⟩ := bind_ok_iff.mp h
    cases h
    refine ⟨by rw [List.length_cons, (ih _ _ _ hres).1], fun _ => ?_⟩
    -- `view[2]` must exist
    unfold floorUnpack at hfl
    obtain ⟨p, hat, -⟩ := bind_ok_iff.mp hfl
    unfold at_ Py.index at hat
    cases hx : x[2]? with
    | none => rw [hx] at hat; cases hat
    | some b => have := (List.getElem?_eq_some_iff.mp hx).1; omega

/-- NDR64 alignment of every tower of the reply: with the padding `-(len + 4) % 8` the next tower
    (conformance + length + bytes + padding = 12 + len + pad) starts 8-aligned, for every length -/
theorem tower_padding_aligned (len : Nat) : (12 + len + Py.negMod (len + 4) 8) % 8 = 0 ∧ Py.negMod (len + 4) 8 < 8 := by
  unfold Py.negMod; omega

end DpapiNg.C18
